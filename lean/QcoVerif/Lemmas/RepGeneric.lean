import QcoVerif.Lemmas.RepProtocol
/-
  C09: the effect of a round on all closed-form states of a description (both parities, every container,
  with and without refocusing) from ONE symbolic run, on the state in which every qubit carries its own
  variable; the decision procedure that evaluates this run for the generated layout tables.
-/
namespace Qco.RepCode
open Qco.StimSem

/-- One round on the state in which every data and ancilla qubit carries a variable of its own. -/
def GenericRound (d : Desc) : Prop :=
  run (roundPlain d) ⟨stateB d d.dataIdx.length d.ancIdx.length false, [], [], 0⟩ =
    some ⟨mk d.size (SB d d.dataIdx.length d.ancIdx.length false true),
          cB d d.dataIdx.length d.ancIdx.length true, [], 0⟩

instance (d : Desc) : Decidable (GenericRound d) := inferInstanceAs (Decidable (_ = _))

section
variable (d : Desc) (nD nA : Nat) (b : Bool)

/-- what the variable `v` of the full container stands for in the closed-form state of parity `b` of the
    container with `nD` data and `nA` ancilla states: data `x ⊕ [refocus ∧ b]`, ancilla `a ⊕ [b]·parity` -/
def genImg (v : Nat) : Nat :=
  if v < d.dataIdx.length then
    (if v < nD then var (dataVar v) else 0) ^^^ (if d.refocus && b then 1 else 0)
  else
    (if v - d.dataIdx.length < nA then var (ancVar nD (v - d.dataIdx.length)) else 0) ^^^
      (if b then parityForm d nD (d.ancIdx.getD (v - d.dataIdx.length) 0) else 0)

/-- the substitution of `genImg` for the variables -/
def genHom : Nat → Nat :=
  bitSum (fun i => if i = 0 then 1 else genImg d nD nA b (i - 1)) (d.dataIdx.length + d.ancIdx.length + 1)

theorem genHom_xorHom : XorHom (genHom d nD nA b) := bitSum_xorHom _ _ rfl (Nat.succ_pos _)

theorem genHom_var {v : Nat} (hv : v < d.dataIdx.length + d.ancIdx.length) :
    genHom d nD nA b (var v) = genImg d nD nA b v := by
  rw [genHom, var, bitSum_pow _ _ _ (by omega)]
  simp

variable {d nD nA}
variable (hwf : d.wellFormed = true)
include hwf

theorem genHom_data {q : Nat} (hq : q ∈ d.dataIdx) :
    genHom d nD nA b (finalFormB d d.dataIdx.length false q) = finalFormB d nD b q := by
  obtain ⟨i, hi, rfl⟩ := List.mem_iff_getElem.mp hq
  have hx := posVar_getElem (dataIdx_nodup hwf) dataVar
  simp only [finalFormB, xVar_eq, hx _ hi, hi, if_true, Bool.and_false, Bool.false_eq_true, if_false, Nat.xor_zero,
    dataVar, genHom_var d nD nA b (Nat.lt_add_right _ hi), genImg]

theorem genHom_anc (ba : Bool) {q : Nat} (hq : q ∈ d.ancIdx) :
    genHom d nD nA b (cycleFormB d d.dataIdx.length d.ancIdx.length ba q) = cycleFormB d nD nA (b ^^ ba) q := by
  obtain ⟨j, hj, rfl⟩ := List.mem_iff_getElem.mp hq
  have hj' : j < d.nbr.length := by rw [nbr_length hwf]; exact hj
  have H := genHom_xorHom d nD nA b
  have ha : genHom d nD nA b (aVar d d.dataIdx.length d.ancIdx.length d.ancIdx[j]) = cycleFormB d nD nA b d.ancIdx[j] := by
    have h1 : ¬ d.dataIdx.length + j < d.dataIdx.length := by omega
    have h2 : d.dataIdx.length + j - d.dataIdx.length = j := by omega
    have h3 : d.ancIdx.getD j 0 = d.ancIdx[j] := by simp [List.getD, hj]
    simp only [aVar_eq, posVar_getElem (ancIdx_nodup hwf) _ _ hj, hj, if_true, ancVar,
      genHom_var d nD nA b (Nat.add_lt_add_left hj _), genImg, h1, if_false, h2, h3, cycleFormB]
  have hp : genHom d nD nA b (parityForm d d.dataIdx.length d.ancIdx[j]) = parityForm d nD d.ancIdx[j] := by
    have hn := nbr_data hwf (List.getElem_mem hj')
    have f1 := genHom_data (nD := nD) (nA := nA) b hwf hn.1
    have f2 := genHom_data (nD := nD) (nA := nA) b hwf hn.2
    simp only [finalFormB, Bool.and_false, Bool.false_eq_true, if_false, Nat.xor_zero] at f1 f2
    rw [parityForm_getElem hwf _ hj hj', H.xor, f1, f2, xor_cancel_mid, ← parityForm_getElem hwf _ hj hj']
  cases ba
  · simpa [cycleFormB] using ha
  · rw [cycleFormB, if_pos rfl, H.xor, ha, hp, Bool.xor_true, ← cycle_pair nD nA b, ← Nat.xor_assoc, Nat.xor_self,
      Nat.zero_xor]

theorem mapQ_SB (ba : Bool) (q : Nat) :
    mapQ (genHom d nD nA b) (SB d d.dataIdx.length d.ancIdx.length false ba q) = SB d nD nA b (b ^^ ba) q := by
  by_cases hd : q ∈ d.dataIdx
  · rw [SB_data _ _ _ _ hd, SB_data _ _ _ _ hd, mapQ, genHom_data b hwf hd]
  · by_cases ha : q ∈ d.ancIdx
    · rw [SB_anc hwf _ _ _ _ ha, SB_anc hwf _ _ _ _ ha, mapQ, genHom_anc b hwf ba ha]
    · simp [SB, hd, ha, mapQ, (genHom_xorHom d nD nA b).zero]

/-- The effect of a round on every closed-form state follows from its effect on the generic state: the
    closed-form states are the images of the generic one under substitutions of forms for the variables, and
    a round (no symbolic gate) commutes with such a substitution. -/
theorem roundEffect_of_generic (hG : GenericRound d) (nD nA : Nat) : RoundEffect d nD nA := by
  intro b
  have h := run_xorHom (genHom_xorHom d nD nA b) (notXV_roundPlain d)
    ⟨stateB d d.dataIdx.length d.ancIdx.length false, [], [], 0⟩
  rw [hG] at h
  have hs : ∀ ba, (mk d.size (SB d d.dataIdx.length d.ancIdx.length false ba)).map (mapQ (genHom d nD nA b)) =
      mk d.size (SB d nD nA b (b ^^ ba)) := fun ba => by
    rw [mk, mk, List.map_map]
    exact List.map_congr_left fun q _ => mapQ_SB b hwf ba q
  have hc : (cB d d.dataIdx.length d.ancIdx.length true).map (genHom d nD nA b) = cB d nD nA (!b) := by
    rw [cB, cB, List.map_reverse, List.map_map]
    congr 1
    exact List.map_congr_left fun q hq => by
      simpa using genHom_anc b hwf true ((measAnc_perm hwf).mem_iff.mp hq)
  simpa [mapSt, stateB_eq, hs, hc, (genHom_xorHom d nD nA b).zero] using h

end

/-! ### the refocusing flag does not enter the generic round -/

theorem roundLayers_congr {d d' : Desc} (h : d'.measAnc = d.measAnc) (ls : List Layer) (cur : List Nat) :
    roundLayers d' ls cur = roundLayers d ls cur := by
  have ha : ∀ l, activeAnc d' l = activeAnc d l := fun l => by rw [activeAnc, activeAnc, h]
  induction ls generalizing cur with
  | nil => rfl
  | cons l rest ih => simp only [roundLayers, ha, ih]

theorem genericRound_refocus {d : Desc} (r : Bool) (hG : GenericRound d) :
    GenericRound { d with refocus := r } := by
  have hs : ∀ ba, SB { d with refocus := r } d.dataIdx.length d.ancIdx.length false ba =
      SB d d.dataIdx.length d.ancIdx.length false ba := fun ba => by
    funext q; simp [SB, finalFormB, cycleFormB, aVar, xVar, parityForm, nbrOf]
  have hp : roundPlain { d with refocus := r } = roundPlain d := by
    simp only [roundPlain, roundLayers_congr (d' := { d with refocus := r }) (d := d) rfl]
    rfl
  unfold GenericRound
  rw [hp, stateB_eq, hs, hs]
  exact hG

/-- well-formedness and one symbolic run of a round (evaluated by `decide +kernel`) -/
def checkRound (d : Desc) : Bool := d.wellFormed && decide (GenericRound d)

theorem facts_of_checkRound {d : Desc} (h : checkRound d = true) (r : Bool) {nD nA : Nat}
    (hD : nD ≤ d.dataIdx.length) (hA : nA ≤ d.ancIdx.length) : Facts { d with refocus := r } nD nA := by
  simp only [checkRound, Bool.and_eq_true, decide_eq_true_eq] at h
  have hwf : Desc.wellFormed { d with refocus := r } = true := h.1
  exact facts_of_round hwf hD hA (roundEffect_of_generic hwf (genericRound_refocus r h.2) nD nA)

def checkAll (ds : List Desc) : Bool := ds.all checkRound

theorem facts_of_checkAll {ds : List Desc} (h : checkAll ds = true) {e : Desc × Nat × Nat} (he : e ∈ entries ds) :
    Facts e.1 e.2.1 e.2.2 := by
  simp only [entries, List.mem_flatMap, List.mem_map] at he
  obtain ⟨d, hd, r, _, nA, hnA, rfl⟩ := he
  have hA : nA ≤ d.ancIdx.length := by split at hnA <;> simp at hnA <;> omega
  exact facts_of_checkRound (List.all_eq_true.mp h d hd) r (Nat.le_refl _) hA

end Qco.RepCode
