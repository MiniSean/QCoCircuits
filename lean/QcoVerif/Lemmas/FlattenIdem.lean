import QcoVerif.Lemmas.GraphBuilt
import QcoVerif.Lemmas.ListingStep
import QcoVerif.Lemmas.AddToGraph
import QcoVerif.Lemmas.Evaluator
/-
  The lemmas behind "flattening again changes nothing" (Properties/C11.lean).  One `add_to_graph` step guarantees
  `StepOk`, which keeps the invariant `FlatOk` of the rebuild loop of `flatten` (graph shape: `TreeOk`).  On a heap
  satisfying `FlatOk` the listing only hands the link of the circuit down (`handDown`) and the rebuild, fed the nodes in
  listing order, reproduces the entries (`rebuild_fixed`, from `built_sortedEntries`): a second `flatten` is `handDown`
  plus sorting (`flatten_of_flattened_eq`) and changes no answer of the evaluator (`sched_congr`).  `FlattenWf`, the
  hypotheses on identifiers, follows from checks on the heap before the listing (`flattenWf_of_tree`).  Core Lean only.
-/
namespace Qco.Flat

open Commute

/-- the key prefix `attach` gives to a child of `p` (`none` = root); `TreeOk` is stated with it. -/
def baseKey (g : List Entry) : Option Nat → List Nat
  | none => []
  | some q => ((entryOf? g q).map (·.key)).getD []

theorem baseKey_eq (g : List Entry) (p : Option Nat) : baseKey g p = Qco.baseKey g p := by
  cases p <;> rfl

theorem attach_eq_baseKey (g : List Entry) (p : Option Nat) (n : Nat) :
    attach g p n = g ++ [{ node := n, parent := p, key := baseKey g p ++ [sibCount g p] }] := by
  rw [baseKey_eq]
  exact attach_def g p n

theorem baseKey_of_mem {g : List Entry} (hnd : (g.map (·.node)).Nodup) {pe : Entry} (hpe : pe ∈ g) {q : Nat}
    (hq : pe.node = q) : baseKey g (some q) = pe.key := by
  subst hq
  rw [baseKey_eq]
  exact Qco.baseKey_of_mem hnd (fun _ h => h) hpe

theorem baseKey_append (g : List Entry) (x : Entry) (p : Option Nat)
    (hp : ∀ q, p = some q → ∃ pe ∈ g, pe.node = q) : baseKey (g ++ [x]) p = baseKey g p := by
  rw [baseKey_eq, baseKey_eq]
  cases p with
  | none => rfl
  | some q => exact Qco.baseKey_append (inGraph_iff.mpr (hp q rfl)) [x]

theorem sibCount_pos_mem {g : List Entry} {p : Option Nat} (h : 0 < sibCount g p) : ∃ e ∈ g, e.parent = p := by
  unfold sibCount at h
  obtain ⟨e, he⟩ := List.exists_mem_of_length_pos h
  rw [List.mem_filter] at he
  exact ⟨e, he.1, by simpa using he.2⟩

/-- the shape of a graph built by `attach`: distinct nodes, parents present, keys = parent key ++ [sibling index],
    sibling indices of every parent are exactly `0 … count-1`, each once. -/
structure TreeOk (g : List Entry) : Prop where
  nodup : (g.map (·.node)).Nodup
  par : ∀ e ∈ g, ∀ p, e.parent = some p → ∃ pe ∈ g, pe.node = p
  key : ∀ e ∈ g, ∃ i, e.key = baseKey g e.parent ++ [i] ∧ i < sibCount g e.parent
  full : ∀ p j, j < sibCount g p → ∃ e ∈ g, e.parent = p ∧ e.key = baseKey g p ++ [j]
  sibinj : ∀ e ∈ g, ∀ e' ∈ g, e.parent = e'.parent → e.key = e'.key → e = e'

theorem treeOk_nil : TreeOk [] :=
  ⟨by simp, (by intro e he; cases he), (by intro e he; cases he), (by intro p j h; simp [sibCount] at h),
   (by intro e he; cases he)⟩

theorem TreeOk.attach {g : List Entry} (h : TreeOk g) (p : Option Nat) (n : Nat)
    (hn : ∀ e ∈ g, e.node ≠ n) (hp : ∀ q, p = some q → ∃ pe ∈ g, pe.node = q) :
    TreeOk (Qco.attach g p n) := by
  rw [attach_eq_baseKey]
  generalize hx : ({ node := n, parent := p, key := baseKey g p ++ [sibCount g p] } : Entry) = x
  have hxn : x.node = n := by rw [← hx]
  have hxp : x.parent = p := by rw [← hx]
  have hxk : x.key = baseKey g p ++ [sibCount g p] := by rw [← hx]
  have hpar : ∀ e ∈ g ++ [x], ∀ q, e.parent = some q → ∃ pe ∈ g, pe.node = q := by
    intro e he q hq
    rcases List.mem_append.mp he with he | he
    · exact h.par e he q hq
    · simp only [List.mem_singleton] at he
      subst he
      exact hp q (hxp ▸ hq)
  have hbase : ∀ e ∈ g ++ [x], baseKey (g ++ [x]) e.parent = baseKey g e.parent := by
    intro e he
    exact baseKey_append g x e.parent (hpar e he)
  refine ⟨?_, ?_, ?_, ?_, ?_⟩
  · rw [List.map_append, List.nodup_append]
    refine ⟨h.nodup, by simp, ?_⟩
    intro a ha b hb
    simp only [List.map_cons, List.map_nil, List.mem_singleton] at hb
    obtain ⟨e, he, hea⟩ := List.mem_map.mp ha
    rw [hb, hxn, ← hea]
    exact hn e he
  · intro e he q hq
    obtain ⟨pe, hpe, hpn⟩ := hpar e he q hq
    exact ⟨pe, List.mem_append_left _ hpe, hpn⟩
  · intro e he
    rw [hbase e he, sibCount_snoc]
    rcases List.mem_append.mp he with he' | he'
    · obtain ⟨i, hi1, hi2⟩ := h.key e he'
      exact ⟨i, hi1, by omega⟩
    · simp only [List.mem_singleton] at he'
      subst he'
      refine ⟨sibCount g p, by rw [hxk, hxp], ?_⟩
      rw [hxp]; simp
  · intro p' j hj
    rw [sibCount_snoc] at hj
    by_cases hpp : x.parent = p'
    · have hbp : baseKey (g ++ [x]) p' = baseKey g p' := by
        rw [← hpp]; exact hbase x (by simp)
      rw [if_pos hpp] at hj
      by_cases hjm : j < sibCount g p'
      · obtain ⟨e, he, he1, he2⟩ := h.full p' j hjm
        exact ⟨e, List.mem_append_left _ he, he1, by rw [hbp]; exact he2⟩
      · have : j = sibCount g p' := by omega
        refine ⟨x, by simp, hpp, ?_⟩
        rw [hbp, hxk, this, ← hpp, hxp]
    · rw [if_neg hpp, Nat.add_zero] at hj
      obtain ⟨e, he, he1, he2⟩ := h.full p' j hj
      have hbp : baseKey (g ++ [x]) p' = baseKey g p' := by
        rw [← he1]; exact hbase e (List.mem_append_left _ he)
      exact ⟨e, List.mem_append_left _ he, he1, by rw [hbp]; exact he2⟩
  · have hnew : ∀ e ∈ g, e.parent = x.parent → e.key = x.key → False := by
      intro e he hep hek
      obtain ⟨i, hi1, hi2⟩ := h.key e he
      rw [hep, hxp] at hi1 hi2
      rw [hxk, hi1] at hek
      have := List.append_inj_right' hek rfl
      simp only [List.cons.injEq, and_true] at this
      omega
    intro e he e' he' hpe hke
    rcases List.mem_append.mp he with h1 | h1 <;> rcases List.mem_append.mp he' with h2 | h2
    · exact h.sibinj e h1 e' h2 hpe hke
    · simp only [List.mem_singleton] at h2
      rw [h2] at hpe hke
      exact (hnew e h1 hpe hke).elim
    · simp only [List.mem_singleton] at h1
      rw [h1] at hpe hke
      exact (hnew e' h2 hpe.symm hke.symm).elim
    · simp only [List.mem_singleton] at h1 h2
      rw [h1, h2]

theorem keyLe_sib {bk : List Nat} {j k : Nat} (h : keyLe (bk ++ [j]) (bk ++ [k]) = true) : j ≤ k := by
  rw [keyLe_snoc] at h
  exact of_decide_eq_true h

def StrictSorted (S : List Entry) : Prop :=
  S.Pairwise (fun a b => entryLe a b = true ∧ a.node ≠ b.node)

theorem strictSorted_sortedEntries (g : List Entry) (hnd : (g.map (·.node)).Nodup) :
    StrictSorted (sortedEntries g) := by
  have h1 := sortedEntries_pairwise g
  have h2 : ((sortedEntries g).map (·.node)).Nodup := sortedEntries_nodup hnd
  have h3 : (sortedEntries g).Pairwise (fun a b => a.node ≠ b.node) := by
    unfold List.Nodup at h2
    exact List.pairwise_map.mp h2
  exact h1.and h3

theorem StrictSorted.split {S A B : List Entry} {e : Entry} (hs : StrictSorted S) (hS : S = A ++ e :: B) :
    (∀ a ∈ A, entryLe a e = true ∧ a.node ≠ e.node) ∧ (∀ b ∈ B, entryLe e b = true ∧ e.node ≠ b.node) := by
  subst hS
  unfold StrictSorted at hs
  rw [List.pairwise_append] at hs
  exact ⟨fun a ha => hs.2.2 a ha e List.mem_cons_self, fun b hb => (List.pairwise_cons.mp hs.2.1).1 b hb⟩

theorem root_before {g : List Entry} (h : TreeOk g) {S : List Entry} (hperm : S.Perm g)
    (hs : StrictSorted S) {A B : List Entry} {e : Entry} (hS : S = A ++ e :: B)
    (hroot : e.parent = none) :
    ∀ a ∈ A, a ∈ g ∧ a.parent = none ∧ ∃ i j, e.key = [i] ∧ a.key = [j] ∧ j < i := by
  intro a ha
  obtain ⟨hA, _⟩ := hs.split hS
  have heg : e ∈ g := hperm.mem_iff.mp (by rw [hS]; simp)
  have hag : a ∈ g := hperm.mem_iff.mp (by rw [hS]; simp [ha])
  obtain ⟨i, hi, _⟩ := h.key e heg
  rw [hroot] at hi
  simp only [baseKey, List.nil_append] at hi
  obtain ⟨j, hj, _⟩ := h.key a hag
  obtain ⟨hle, hne⟩ := hA a ha
  have hlen : a.key.length ≤ e.key.length := keyLe_length hle
  rw [hi, hj] at hlen
  simp only [List.length_append, List.length_cons, List.length_nil] at hlen
  have hap : a.parent = none := by
    cases hq : a.parent with
    | none => rfl
    | some q =>
      obtain ⟨pe, hpeg, hpn⟩ := h.par a hag q hq
      obtain ⟨k, hk, _⟩ := h.key pe hpeg
      rw [hq, baseKey_of_mem h.nodup hpeg hpn, hk] at hlen
      simp at hlen
  rw [hap] at hj
  simp only [baseKey, List.nil_append] at hj
  refine ⟨hag, hap, i, j, hi, hj, ?_⟩
  unfold entryLe at hle
  rw [hi, hj] at hle
  have hji : j ≤ i := keyLe_sib (bk := []) hle
  by_cases hji' : j = i
  · subst hji'
    have := h.sibinj a hag e heg (hap.trans hroot.symm) (hj.trans hi.symm)
    exact absurd (by rw [this]) hne
  · omega

/-- the channel test of `leafAtAny`.  `Qco.chMatch` of Lemmas/CopyGraph.lean, which this file does not import, is the
    same function. -/
def chMatch (a b : List ChId) : Bool := a.any (fun x => b.any (fun y => x.matches y))

theorem leafAtAny_eq (w : World) (g : List Entry) (chs : List ChId) :
    w.leafAtAny g chs = (listing g).reverse.find? (fun n => chMatch chs (w.chansOf n)) := rfl

theorem leafAtAny_none_iff (w : World) (g : List Entry) (chs : List ChId) :
    w.leafAtAny g chs = none ↔ ∀ n ∈ listing g, chMatch chs (w.chansOf n) = false := by
  rw [leafAtAny_eq, List.find?_eq_none]
  simp

theorem leafAtAny_some_inGraph {w : World} {g : List Entry} {chs : List ChId} {lf : Nat}
    (h : w.leafAtAny g chs = some lf) : ∃ e ∈ g, e.node = lf := by
  rw [leafAtAny_eq] at h
  have := List.mem_of_find?_eq_some h
  rw [List.mem_reverse] at this
  exact mem_listing_iff.mp this

/-- what a step of the rebuild may change: the links of the operations in `ops`, and new links are appended. -/
structure Frame (w w' : World) (ops : List Nat) : Prop where
  size : w'.ops.size = w.ops.size
  other : ∀ j, j ∉ ops → w'.op j = w.op j
  shape : Shape w' w
  lnk : ∀ l, l < w.links.size → w'.lnk l = w.lnk l
  lsize : w.links.size ≤ w'.links.size

theorem Frame.refl (w : World) (ops : List Nat) : Frame w w ops :=
  ⟨rfl, fun _ _ => rfl, Shape.refl w, fun _ _ => rfl, Nat.le_refl _⟩

theorem Frame.cons {w w' w'' : World} {o : Nat} {os : List Nat} (h1 : Frame w w' [o]) (h2 : Frame w' w'' os) :
    Frame w w'' (o :: os) := by
  refine ⟨h2.size.trans h1.size, ?_, ⟨h2.shape.1.trans h1.shape.1, fun j => (h2.shape.2 j).trans (h1.shape.2 j)⟩, ?_,
    Nat.le_trans h1.lsize h2.lsize⟩
  · intro j hj
    simp only [List.mem_cons, not_or] at hj
    rw [h2.other j hj.2, h1.other j (by simpa using hj.1)]
  · intro l hl
    rw [h2.lnk l (Nat.lt_of_lt_of_le hl h1.lsize), h1.lnk l hl]

theorem modW_frame (k : Option (Nat × Bool × Link)) (o : Nat) (w : World) : Frame w (modW k o w) [o] := by
  refine ⟨modW_size k o w, ?_, modW_shape k o w, modW_lnk k o w, modW_links_size k o w⟩
  intro j hj
  rw [modW_op, if_neg (fun h => hj (by simp [h.2.1]))]

/-- what one `add_to_graph` step guarantees about the added operation `o` (an existing object whose link is an
    existing link that is not a group link unless it is empty). -/
structure StepOk (w : World) (g : List Entry) (o : Nat) (w' : World) (g' : List Entry) (p : Option Nat) : Prop where
  graph : g' = attach g p o
  frame : Frame w w' [o]
  inr : (w'.op o).link < w'.links.size
  root : p = none → w.leafAtAny g (w.chansOf o) = none ∧ (w'.lnk (w'.op o).link).refs = []
  child : ∀ q, p = some q → (∃ e ∈ g, e.node = q) ∧ (w'.lnk (w'.op o).link).multi = false ∧
    (w'.lnk (w'.op o).link).refs.head? = some q

theorem stepOk_of_addDec (w : World) (g : List Entry) (o : Nat) (ho : o < w.ops.size)
    (hl : (w.op o).link < w.links.size)
    (hm : (w.lnk (w.op o).link).refs = [] ∨ (w.lnk (w.op o).link).multi = false)
    {k : Option (Nat × Bool × Link)} {p : Option Nat}
    (hd : addDec (w.hasRel o) (w.leafAtAny g (w.chansOf o)) (w.refOf (w.op o).link) g = (k, p)) :
    StepOk w g o (modW k o w) (attach g p o) p := by
  rcases addDec_cases (w.hasRel o) (w.leafAtAny g (w.chansOf o)) (w.refOf (w.op o).link) g with
    ⟨hr, hleaf, e⟩ | ⟨r, hr, href, hin, e⟩ | ⟨a, b, e⟩ <;> rw [hd] at e <;> obtain ⟨rfl, rfl⟩ := Prod.mk.inj e
  · exact ⟨rfl, Frame.refl _ _, hl, fun _ => ⟨hleaf, (w.hasRel_false_iff o).mp hr⟩, fun q hq => by cases hq⟩
  · have hmulti := hm.resolve_left ((w.hasRel_true_iff o).mp hr)
    rw [w.refOf_single _ hmulti] at href
    refine ⟨rfl, Frame.refl _ _, hl, (fun hq => by cases hq), ?_⟩
    intro q hq
    cases hq
    exact ⟨inGraph_iff.mp hin, hmulti, Option.some.inj href⟩
  · -- `o` now carries the fresh link, which names the node sharing a channel, if there is one
    have hop : (modW (some (a, b, { refs := (w.leafAtAny g (w.chansOf o)).toList })) o w).op o =
        { w.op o with link := w.links.size } := by
      rw [modW_op]; simp [ho]
    have hlk := modW_lnk_new a b { refs := (w.leafAtAny g (w.chansOf o)).toList } o w
    refine ⟨rfl, modW_frame _ o w, ?_, ?_, ?_⟩
    · rw [hop, modW_links]; simp
    · intro hleaf
      rw [hop, hlk, hleaf]
      exact ⟨rfl, rfl⟩
    · intro q hq
      rw [hop, hlk, hq]
      exact ⟨leafAtAny_some_inGraph hq, rfl, rfl⟩

theorem addToGraph_spec (w : World) (g : List Entry) (o : Nat) (ho : o < w.ops.size)
    (hl : (w.op o).link < w.links.size)
    (hm : (w.lnk (w.op o).link).refs = [] ∨ (w.lnk (w.op o).link).multi = false) :
    ∃ p, StepOk w g o (w.addToGraph g o).1 (w.addToGraph g o).2 p := by
  rw [addToGraph_eq]
  exact ⟨_, stepOk_of_addDec w g o ho hl hm rfl⟩

/-- invariant of the rebuild loop of `flatten` (graph `g` under construction in heap `w`): the graph is a tree built
    by `attach`, all its nodes are leaf operations, the link of a node under the root names no reference, the link of a
    node under `p` is a plain link whose reference is `p`, and a root node shares no channel with the root nodes
    inserted before it. -/
structure FlatOk (w : World) (g : List Entry) : Prop where
  tree : TreeOk g
  leaf : ∀ e ∈ g, (w.op e.node).isComp = false
  rootL : ∀ e ∈ g, e.parent = none → (w.lnk (w.op e.node).link).refs = []
  childL : ∀ e ∈ g, ∀ p, e.parent = some p →
    (w.lnk (w.op e.node).link).multi = false ∧ (w.lnk (w.op e.node).link).refs.head? = some p
  free : ∀ e ∈ g, ∀ e' ∈ g, e.parent = none → e'.parent = none → ∀ i j, e.key = [i] → e'.key = [j] → j < i →
    chMatch (w.op e.node).leafChans (w.op e'.node).leafChans = false

/-- the links of the nodes are existing links (so that appending links does not disturb them). -/
def RangeOk (w : World) (g : List Entry) : Prop := ∀ e ∈ g, (w.op e.node).link < w.links.size

theorem flatOk_nil (w : World) : FlatOk w [] :=
  ⟨treeOk_nil, (by intro e he; cases he), (by intro e he; cases he), (by intro e he; cases he),
   (by intro e he; cases he)⟩

theorem FlatOk.step {w w' : World} {g g' : List Entry} {o : Nat} {p : Option Nat} (h : FlatOk w g)
    (hr : RangeOk w g) (hs : StepOk w g o w' g' p) (hfresh : ∀ e ∈ g, e.node ≠ o)
    (hleaf : (w.op o).isComp = false) : FlatOk w' g' ∧ RangeOk w' g' := by
  have hg' := hs.graph
  rw [attach_eq_baseKey] at hg'
  generalize hx : ({ node := o, parent := p, key := baseKey g p ++ [sibCount g p] } : Entry) = x at hg'
  have hxn : x.node = o := by rw [← hx]
  have hxp : x.parent = p := by rw [← hx]
  have hxk : x.key = baseKey g p ++ [sibCount g p] := by rw [← hx]
  have hop : ∀ e ∈ g, w'.op e.node = w.op e.node := by
    intro e he
    exact hs.frame.other _ (by simpa using hfresh e he)
  have hlnk : ∀ e ∈ g, w'.lnk (w'.op e.node).link = w.lnk (w.op e.node).link := by
    intro e he
    rw [hop e he, hs.frame.lnk _ (hr e he)]
  have hopo : (w'.op o).leafChans = (w.op o).leafChans := leafChans_noLink (hs.frame.shape.2 o)
  have hmem : ∀ e, e ∈ g' ↔ e ∈ g ∨ e = x := by
    intro e; rw [hg']; simp
  refine ⟨⟨?_, ?_, ?_, ?_, ?_⟩, ?_⟩
  · rw [hs.graph]
    exact h.tree.attach p o hfresh (fun q hq => (hs.child q hq).1)
  · intro e he
    rcases (hmem e).mp he with he | he
    · rw [hop e he]; exact h.leaf e he
    · rw [he, hxn, hs.frame.shape.isComp o]; exact hleaf
  · intro e he hroot
    rcases (hmem e).mp he with he | he
    · rw [hlnk e he]; exact h.rootL e he hroot
    · rw [he, hxp] at hroot
      rw [he, hxn]
      exact (hs.root hroot).2
  · intro e he q hq
    rcases (hmem e).mp he with he | he
    · rw [hlnk e he]; exact h.childL e he q hq
    · rw [he, hxp] at hq
      rw [he, hxn]
      exact (hs.child q hq).2
  · intro e he e' he' hroot hroot' i j hi hj hji
    rcases (hmem e).mp he with he | he <;> rcases (hmem e').mp he' with he' | he'
    · rw [hop e he, hop e' he']
      exact h.free e he e' he' hroot hroot' i j hi hj hji
    · -- `e` old, `e'` new: the new root has the largest index
      exfalso
      obtain ⟨i', hi1, hi2⟩ := h.tree.key e he
      rw [hroot] at hi1 hi2
      rw [he', hxp] at hroot'
      rw [he', hxk, hroot'] at hj
      simp only [baseKey, List.nil_append] at hi1 hj
      rw [hi1] at hi
      simp only [List.cons.injEq, and_true] at hi hj
      omega
    · -- `e` new root, `e'` old: `leafAtAny` found nothing when `e` was added
      rw [he, hxp] at hroot
      rw [he, hxn, hopo, hop e' he']
      have hnone := (leafAtAny_none_iff w g (w.chansOf o)).mp (hs.root hroot).1 e'.node
        (mem_listing_iff.mpr ⟨e', he', rfl⟩)
      rw [chansOf_leaf w o hleaf, chansOf_leaf w e'.node (h.leaf e' he')] at hnone
      exact hnone
    · exfalso
      rw [he] at hi; rw [he'] at hj
      rw [hi] at hj
      simp only [List.cons.injEq, and_true] at hj
      omega
  · intro e he
    rcases (hmem e).mp he with he | he
    · rw [hop e he]
      exact Nat.lt_of_lt_of_le (hr e he) hs.frame.lsize
    · rw [he, hxn]; exact hs.inr

/-- what the rebuild loop needs of an operation it is going to add. -/
def OpOk (w : World) (o : Nat) : Prop :=
  o < w.ops.size ∧ (w.op o).isComp = false ∧ (w.op o).link < w.links.size ∧
    ((w.lnk (w.op o).link).refs = [] ∨ (w.lnk (w.op o).link).multi = false)

theorem OpOk.frame {w w' : World} {o o' : Nat} (hf : Frame w w' [o]) (hne : o' ≠ o) (h : OpOk w o') : OpOk w' o' := by
  obtain ⟨h1, h2, h3, h4⟩ := h
  have hop : w'.op o' = w.op o' := hf.other o' (by simpa using hne)
  refine ⟨by rw [hf.size]; exact h1, by rw [hop]; exact h2, ?_, ?_⟩
  · rw [hop]; exact Nat.lt_of_lt_of_le h3 hf.lsize
  · rw [hop, hf.lnk _ h3]; exact h4

/-- the rebuild loop of `flatten` (this is literally the fold `World.flatten` runs). -/
def rebuild (ops : List Nat) (w : World) (g : List Entry) : World × List Entry :=
  ops.foldl (fun (acc : World × List Entry) o => acc.1.addToGraph acc.2 o) (w, g)

theorem rebuild_cons (o : Nat) (os : List Nat) (w : World) (g : List Entry) :
    rebuild (o :: os) w g = rebuild os (w.addToGraph g o).1 (w.addToGraph g o).2 := by
  unfold rebuild
  rw [List.foldl_cons]

theorem rebuild_ok : ∀ (ops : List Nat) (w : World) (g : List Entry), FlatOk w g → Built g → RangeOk w g → ops.Nodup →
    (∀ o ∈ ops, ∀ e ∈ g, e.node ≠ o) → (∀ o ∈ ops, OpOk w o) →
    FlatOk (rebuild ops w g).1 (rebuild ops w g).2 ∧ Built (rebuild ops w g).2 ∧
    Frame w (rebuild ops w g).1 ops := by
  intro ops
  induction ops with
  | nil => intro w g h hb _ _ _ _; exact ⟨h, hb, Frame.refl _ _⟩
  | cons o os ih =>
    intro w g h hb hr hnd hfresh hok
    rw [rebuild_cons]
    obtain ⟨ho1, ho2, ho3, ho4⟩ := hok o List.mem_cons_self
    obtain ⟨p, hs⟩ := addToGraph_spec w g o ho1 ho3 ho4
    obtain ⟨h', hr'⟩ := h.step hr hs (hfresh o List.mem_cons_self) ho2
    have hb' : Built (w.addToGraph g o).2 := by
      rw [hs.graph]
      exact built_attach hb p o (fun q hq => inGraph_iff.mpr (hs.child q hq).1)
        (inGraph_false_iff.mpr (hfresh o List.mem_cons_self))
    rw [List.nodup_cons] at hnd
    have hfresh' : ∀ o' ∈ os, ∀ e ∈ (w.addToGraph g o).2, e.node ≠ o' := by
      intro o' ho' e he
      rw [hs.graph, attach_eq_baseKey] at he
      rcases List.mem_append.mp he with he | he
      · exact hfresh o' (List.mem_cons_of_mem _ ho') e he
      · simp only [List.mem_singleton] at he
        rw [he]
        intro heq
        exact hnd.1 (by rw [show o = o' from heq]; exact ho')
    have hok' : ∀ o' ∈ os, OpOk (w.addToGraph g o).1 o' := by
      intro o' ho'
      refine (hok o' (List.mem_cons_of_mem _ ho')).frame hs.frame ?_
      intro heq
      exact hnd.1 (heq ▸ ho')
    obtain ⟨i1, i2, i3⟩ := ih (w.addToGraph g o).1 (w.addToGraph g o).2 h' hb' hr' hnd.2 hfresh' hok'
    exact ⟨i1, i2, hs.frame.cons i3⟩

def SameLeaf (w w' : World) : Prop :=
  ∀ j, (w'.op j).cls = (w.op j).cls ∧ (w'.op j).qs = (w.op j).qs ∧ (w'.op j).chan = (w.op j).chan

def SameRel (w w' : World) : Prop :=
  ∀ j, (w'.lnk (w'.op j).link).refs = (w.lnk (w.op j).link).refs ∧
    ((w.lnk (w.op j).link).refs ≠ [] → (w'.lnk (w'.op j).link).multi = (w.lnk (w.op j).link).multi)

theorem FlatOk.transfer {w w' : World} {g : List Entry} (h : FlatOk w g) (hl : SameLeaf w w') (hr : SameRel w w') :
    FlatOk w' g := by
  have hcomp : ∀ j, (w'.op j).isComp = (w.op j).isComp := by
    intro j; unfold Op.isComp; rw [(hl j).1]
  have hch : ∀ j, (w'.op j).leafChans = (w.op j).leafChans := by
    intro j; unfold Op.leafChans; rw [(hl j).1, (hl j).2.1, (hl j).2.2]
  refine ⟨h.tree, ?_, ?_, ?_, ?_⟩
  · intro e he; rw [hcomp]; exact h.leaf e he
  · intro e he hroot; rw [(hr e.node).1]; exact h.rootL e he hroot
  · intro e he p hp
    obtain ⟨h1, h2⟩ := h.childL e he p hp
    have hne : (w.lnk (w.op e.node).link).refs ≠ [] := by
      intro h0; rw [h0] at h2; cases h2
    rw [(hr e.node).1, (hr e.node).2 hne]
    exact ⟨h1, h2⟩
  · intro e he e' he' hroot hroot' i j hi hj hji
    rw [hch, hch]
    exact h.free e he e' he' hroot hroot' i j hi hj hji

theorem setGraph_sameLeaf (w : World) (c : Nat) (g : List Entry) : SameLeaf w (w.setGraph c g) := by
  intro j
  obtain ⟨g', h⟩ := w.op_setGraph_fields c g j
  rw [h]
  exact ⟨rfl, rfl, rfl⟩

theorem setGraph_sameRel (w : World) (c : Nat) (g : List Entry) : SameRel w (w.setGraph c g) := by
  intro j
  rw [w.link_setGraph]
  exact ⟨rfl, fun _ => rfl⟩

/-- what `decomposed_operations` does to the heap when every node is a leaf operation: relation-less nodes get the
    link `cl` of the circuit. -/
def handDown (w : World) (cl : Nat) (L : List Nat) : World := L.foldl (pre cl) w

theorem handDown_cons (w : World) (cl n : Nat) (L : List Nat) :
    handDown w cl (n :: L) = handDown (pre cl w n) cl L := rfl

theorem decomposed_flat_aux (f cl : Nat) : ∀ (L : List Nat) (w : World) (out : List Nat),
    (∀ n ∈ L, (w.op n).isComp = false) →
    L.foldl (decompStep f cl) (w, out) = (handDown w cl L, out ++ L) := by
  intro L
  induction L with
  | nil => intro w out _; simp [handDown]
  | cons n ns ih =>
    intro w out hflat
    have hs : Shape (pre cl w n) w := pre_shape cl (Shape.refl w) n
    have hstep : decompStep f cl (w, out) n = (pre cl w n, out ++ [n]) := by
      rw [decompStep_eq, hs.isComp n, hflat n List.mem_cons_self]
      rfl
    rw [List.foldl_cons, hstep, handDown_cons,
      ih _ _ (fun m hm => by rw [hs.isComp m]; exact hflat m (List.mem_cons_of_mem _ hm))]
    simp

theorem decomposed_flat (f c : Nat) (w : World) (hflat : ∀ n ∈ listing (w.op c).graph, (w.op n).isComp = false) :
    w.decomposed (f + 1) c =
      (handDown w (w.op c).link (listing (w.op c).graph), listing (w.op c).graph) := by
  rw [decomposed_succ]
  have := decomposed_flat_aux f (w.op c).link (listing (w.op c).graph) w [] hflat
  simpa using this

/-- effect of `handDown` when the handed-down link names no reference. -/
structure HD (w w' : World) : Prop where
  links : w'.links = w.links
  size : w'.ops.size = w.ops.size
  shape : Shape w' w
  refs : ∀ j, (w'.lnk (w'.op j).link).refs = (w.lnk (w.op j).link).refs
  keep : ∀ j, w.hasRel j = true → (w'.op j).link = (w.op j).link
  leafDur : ∀ d, w'.leafDur d = w.leafDur d

theorem HD.refl (w : World) : HD w w := ⟨rfl, rfl, Shape.refl w, fun _ => rfl, fun _ _ => rfl, fun _ => rfl⟩

theorem HD.hasRel {w w' : World} (h : HD w w') (j : Nat) : w'.hasRel j = w.hasRel j := by
  unfold World.hasRel
  rw [h.refs j]

theorem HD.trans {a b c : World} (h1 : HD a b) (h2 : HD b c) : HD a c :=
  ⟨h2.links.trans h1.links, h2.size.trans h1.size,
    ⟨h2.shape.1.trans h1.shape.1, fun j => (h2.shape.2 j).trans (h1.shape.2 j)⟩,
    fun j => (h2.refs j).trans (h1.refs j),
    fun j hj => (h2.keep j ((h1.hasRel j).trans hj)).trans (h1.keep j hj),
    fun d => (h2.leafDur d).trans (h1.leafDur d)⟩

theorem HD.step (w : World) (cl n : Nat) (hcl : (w.lnk cl).refs = []) : HD w (pre cl w n) := by
  unfold pre
  cases hb : w.hasRel n with
  | true => exact HD.refl w
  | false =>
    show HD w (w.setLink n cl)
    refine ⟨rfl, w.ops_size_setLink n cl, (Shape.refl w).setLink n cl, ?_, ?_, fun d => w.leafDur_setOp n _ d⟩
    · intro j
      show (w.lnk ((w.setLink n cl).op j).link).refs = _
      rw [w.op_setLink]
      split
      · rename_i h
        rw [← h.1, (w.hasRel_false_iff n).mp hb]
        exact hcl
      · rfl
    · intro j hj
      rw [w.op_setLink]
      split
      · rename_i h
        rw [← h.1, hb] at hj; cases hj
      · rfl

theorem handDown_spec (cl : Nat) : ∀ (L : List Nat) (w : World), (w.lnk cl).refs = [] → HD w (handDown w cl L) := by
  intro L
  induction L with
  | nil => intro w _; exact HD.refl w
  | cons n ns ih =>
    intro w hcl
    rw [handDown_cons]
    have h1 := HD.step w cl n hcl
    exact h1.trans (ih _ (by rw [World.lnk_of_links_eq h1.links]; exact hcl))

theorem HD.sameLeaf {w w' : World} (h : HD w w') : SameLeaf w w' :=
  fun j => ⟨h.shape.cls j, h.shape.qs j, h.shape.chan j⟩

theorem HD.sameRel {w w' : World} (h : HD w w') : SameRel w w' := by
  intro j
  refine ⟨h.refs j, ?_⟩
  intro hne
  rw [h.keep j ((w.hasRel_true_iff j).mpr hne), World.lnk_of_links_eq h.links]

theorem handDown_root (cl n : Nat) : ∀ (L : List Nat) (w : World), (w.lnk cl).refs = [] → w.hasRel n = false →
    n < w.ops.size → n ∈ L ∨ (w.op n).link = cl → ((handDown w cl L).op n).link = cl := by
  intro L
  induction L with
  | nil => intro w _ _ _ h; exact h.resolve_left (by simp)
  | cons m ms ih =>
    intro w hcl hb hlt h
    have h1 := HD.step w cl m hcl
    rw [handDown_cons]
    refine ih _ (by rw [World.lnk_of_links_eq h1.links]; exact hcl) ((h1.hasRel n).trans hb) (by rw [h1.size]; exact hlt) ?_
    by_cases hnm : n = m
    · -- this step assigns the link: `n` is relation-less before and after it
      subst hnm
      exact Or.inr ((pre_rel_or_link cl w n hlt).resolve_left (by rw [h1.hasRel n, hb]; simp))
    · rw [pre_op_other cl w m n hnm]
      exact h.imp_left (fun hm => (List.mem_cons.mp hm).resolve_left hnm)

/-! ### the second rebuild: every step is a "keep" step and reproduces the entry -/

theorem addToGraph_fixed {w : World} {g : List Entry} (h : FlatOk w g) (hb : Built g) {A B : List Entry} {e : Entry}
    (hS : sortedEntries g = A ++ e :: B) : w.addToGraph A e.node = (w, A ++ [e]) := by
  have heg : e ∈ g := mem_sortedEntries.mp (by rw [hS]; simp)
  -- in listing order `e` is attached where it is: its parent is listed before it, its key is the next sibling index
  obtain ⟨_, hpar, hkey⟩ := built_sortedEntries hb A e B hS
  have hre : attach A e.parent e.node = A ++ [e] := by rw [attach_def, ← hkey]
  rw [← hre]
  cases hq : e.parent with
  | none =>
    apply addToGraph_root
    · exact (w.hasRel_false_iff e.node).mpr (h.rootL e heg hq)
    · rw [leafAtAny_none_iff]
      intro n hn
      obtain ⟨a, haA, han⟩ := mem_listing_iff.mp hn
      obtain ⟨hag, hap, i, j, hi, hj, hji⟩ := root_before h.tree (sortedEntries_perm g)
        (strictSorted_sortedEntries g h.tree.nodup) hS hq a haA
      rw [← han, chansOf_leaf w e.node (h.leaf e heg), chansOf_leaf w a.node (h.leaf a hag)]
      exact h.free e heg a hag hq hap i j hi hj hji
  | some q =>
    obtain ⟨h1, h2⟩ := h.childL e heg q hq
    have hne : (w.lnk (w.op e.node).link).refs ≠ [] := by
      intro h0; rw [h0] at h2; cases h2
    exact addToGraph_child w A e.node q ((w.hasRel_true_iff e.node).mpr hne) (by rw [w.refOf_single _ h1, h2])
      (hpar q hq)

/-- **the second rebuild reproduces the graph in listing order and leaves the heap alone.** -/
theorem rebuild_fixed {w : World} {g : List Entry} (h : FlatOk w g) (hb : Built g) :
    ∀ (B A : List Entry), sortedEntries g = A ++ B → rebuild (B.map (·.node)) w A = (w, sortedEntries g) := by
  intro B
  induction B with
  | nil => intro A hS; rw [hS]; simp [rebuild]
  | cons e B ih =>
    intro A hS
    rw [List.map_cons, rebuild_cons, addToGraph_fixed h hb hS]
    exact ih (A ++ [e]) (by rw [hS]; simp)

theorem flatten_eq_rebuild (w : World) (c : Nat) :
    w.flatten c = (rebuild (w.operations c).2 (w.operations c).1 []).1.setGraph c
      (rebuild (w.operations c).2 (w.operations c).1 []).2 := rfl

/-- well-formedness of the circuit `c` of heap `w` needed for "flattening again changes nothing"
    (all about identifiers being in range and the heap being tree shaped around `c`):
    with `(w₁, ops) = w.operations c` (the listing, which hands enclosing links down),
    * `link_in`   the link of `c` is an existing link,
    * `link_kept` listing `c` does not re-link `c` itself (`c` is not nested inside itself),
    * `not_self`  `c` is not one of its own operations (true when `c` is a sub-circuit object: the listing only contains
                  leaf operations),
    * `nodup`     no operation object is listed twice,
    * `ops_in`    every listed operation is an existing object whose link is an existing link. -/
structure FlattenWf (w : World) (c : Nat) : Prop where
  link_in : (w.op c).link < w.links.size
  link_kept : ((w.operations c).1.op c).link = (w.op c).link
  not_self : c ∉ (w.operations c).2
  nodup : (w.operations c).2.Nodup
  ops_in : ∀ o ∈ (w.operations c).2, o < w.ops.size ∧ ((w.operations c).1.op o).link < w.links.size

/-- the state of `c` after a `flatten`. -/
structure Flattened (w : World) (c : Nat) : Prop where
  ok : FlatOk w (w.op c).graph
  built : Built (w.op c).graph
  top : (w.lnk (w.op c).link).refs = []

theorem flatten_flattened (w : World) (c : Nat) (hc : c < w.ops.size)
    (htop : (w.lnk (w.op c).link).refs = [])
    (hsingle : ∀ o ∈ (w.operations c).2,
      ((w.operations c).1.lnk (((w.operations c).1.op o).link)).refs = [] ∨
      ((w.operations c).1.lnk (((w.operations c).1.op o).link)).multi = false)
    (hwf : FlattenWf w c) :
    Flattened (w.flatten c) c ∧ c < (w.flatten c).ops.size := by
  have hleaf : ∀ o ∈ (w.operations c).2, (w.op o).isComp = false := by
    intro o ho
    rw [operations_eq_leafListing] at ho
    exact leafListing_leaf w _ c o ho
  have hsz1 := operations_ops_size w c
  have hlk1 := operations_links w c
  have hsh1 := operations_shape w c
  have hok : ∀ o ∈ (w.operations c).2, OpOk (w.operations c).1 o := by
    intro o ho
    obtain ⟨r1, r2⟩ := hwf.ops_in o ho
    refine ⟨by rw [hsz1]; exact r1, by rw [hsh1.isComp o]; exact hleaf o ho, by rw [hlk1]; exact r2, hsingle o ho⟩
  obtain ⟨hflat, hbuilt, hframe⟩ := rebuild_ok (w.operations c).2 (w.operations c).1 [] (flatOk_nil _) built_nil
    (by intro e he; cases he) hwf.nodup (by intro o _ e he; cases he) hok
  rw [flatten_eq_rebuild]
  generalize rebuild (w.operations c).2 (w.operations c).1 [] = r at hflat hbuilt hframe
  have hcr : c < r.1.ops.size := by rw [hframe.size, hsz1]; exact hc
  refine ⟨⟨?_, ?_, ?_⟩, by rw [World.ops_size_setGraph]; exact hcr⟩
  · rw [r.1.graph_setGraph_self _ hcr]
    exact hflat.transfer (setGraph_sameLeaf _ _ _) (setGraph_sameRel _ _ _)
  · rw [r.1.graph_setGraph_self _ hcr]
    exact hbuilt
  · rw [World.link_setGraph, World.lnk_setGraph, hframe.other c hwf.not_self, hwf.link_kept,
      hframe.lnk _ (by rw [hlk1]; exact hwf.link_in), World.lnk_of_links_eq hlk1]
    exact htop

/-- **a flattened circuit is a fixed point of `flatten` up to what a listing does**: relation-less nodes get the link of
    `c` (`handDown`), then the graph is replaced by the same entries in listing order. -/
theorem flatten_of_flattened_eq (w : World) (c : Nat) (h : Flattened w c) :
    w.flatten c = (handDown w (w.op c).link (listing (w.op c).graph)).setGraph c
      (sortedEntries (w.op c).graph) := by
  have hflat : ∀ n ∈ listing (w.op c).graph, (w.op n).isComp = false := by
    intro n hn
    obtain ⟨e, he, hen⟩ := mem_listing_iff.mp hn
    rw [← hen]; exact h.ok.leaf e he
  have hops : w.operations c =
      (handDown w (w.op c).link (listing (w.op c).graph), listing (w.op c).graph) := by
    unfold World.operations
    rw [show w.depthFuel = (w.ops.size + 1) + 1 from rfl]
    exact decomposed_flat _ c w hflat
  have hd := handDown_spec (w.op c).link (listing (w.op c).graph) w h.top
  have hfix := rebuild_fixed (h.ok.transfer hd.sameLeaf hd.sameRel) h.built (sortedEntries (w.op c).graph) []
    (by simp)
  rw [flatten_eq_rebuild, hops]
  show (rebuild ((sortedEntries (w.op c).graph).map (·.node)) _ []).1.setGraph c
    (rebuild ((sortedEntries (w.op c).graph).map (·.node)) _ []).2 = _
  rw [hfix]

/-- … so the heap only changes by relation-less nodes getting the (reference-free) link of `c` (`HD`). -/
theorem flatten_of_flattened (w : World) (c : Nat) (h : Flattened w c) :
    ∃ w', HD w w' ∧ w.flatten c = w'.setGraph c (sortedEntries (w.op c).graph) :=
  ⟨_, handDown_spec (w.op c).link (listing (w.op c).graph) w h.top, flatten_of_flattened_eq w c h⟩

/-- `flatten_of_flattened` for the heap `w.flatten c`, from the hypotheses on `w` that the theorems of Properties/C11.lean
    take. -/
theorem flatten_twice (w : World) (c : Nat) (hc : c < w.ops.size)
    (htop : (w.lnk (w.op c).link).refs = [])
    (hsingle : ∀ o ∈ (w.operations c).2,
      ((w.operations c).1.lnk (((w.operations c).1.op o).link)).refs = [] ∨
      ((w.operations c).1.lnk (((w.operations c).1.op o).link)).multi = false)
    (hwf : FlattenWf w c) :
    ∃ w', HD (w.flatten c) w' ∧ c < (w.flatten c).ops.size ∧
      (w.flatten c).flatten c = w'.setGraph c (sortedEntries ((w.flatten c).op c).graph) := by
  obtain ⟨h, h2⟩ := flatten_flattened w c hc htop hsingle hwf
  obtain ⟨w', hd, e⟩ := flatten_of_flattened (w.flatten c) c h
  exact ⟨w', hd, h2, e⟩

theorem flatten_of_flattened_root (w : World) (c : Nat) (h : Flattened w c) (o : Nat)
    (ho : o ∈ listing (w.op c).graph) (hb : w.hasRel o = false) (hlt : o < w.ops.size) :
    ((w.flatten c).op o).link = (w.op c).link := by
  rw [flatten_of_flattened_eq w c h, World.link_setGraph]
  exact handDown_root _ o _ w h.top hb hlt (Or.inl ho)

/-- what the listing (`decomposed_operations`) may do to links: every link identifier in use was in use before, and an
    object that is not a node of any graph keeps its link. -/
structure DInv (w0 w : World) : Prop where
  shape : Shape w w0
  used : ∀ j, ∃ k, (w.op j).link = (w0.op k).link
  kept : ∀ j, (∀ o, ∀ e ∈ (w0.op o).graph, e.node ≠ j) → (w.op j).link = (w0.op j).link

theorem DInv.refl (w : World) : DInv w w := ⟨Shape.refl w, fun j => ⟨j, rfl⟩, fun _ _ => rfl⟩

theorem DInv.setLink {w0 w : World} (h : DInv w0 w) {n : Nat} (hn : ∃ c, n ∈ listing (w0.op c).graph) (k : Nat) :
    DInv w0 (w.setLink n (w0.op k).link) := by
  refine ⟨h.shape.setLink _ _, ?_, ?_⟩
  · intro j
    rw [w.op_setLink]
    split
    · exact ⟨k, rfl⟩
    · exact h.used j
  · intro j hj
    rw [w.op_setLink]
    split
    · rename_i hnj
      obtain ⟨c, hn⟩ := hn
      obtain ⟨e, he, hen⟩ := mem_listing_iff.mp hn
      exact absurd (hen.trans hnj.1) (hj c e he)
    · exact h.kept j hj

theorem decomposed_dinv (w0 : World) : ∀ (f c : Nat) (w : World), DInv w0 w → DInv w0 (w.decomposed f c).1 :=
  decomposed_inv (A := fun n l => (∃ c, n ∈ listing (w0.op c).graph) ∧ ∃ k, l = (w0.op k).link)
    (fun _ _ _ h ha => by obtain ⟨hn, k, rfl⟩ := ha; exact h.setLink hn k)
    (fun w c n h hn => ⟨⟨c, h.shape.graph c ▸ hn⟩, h.used c⟩)

theorem operations_dinv (w : World) (c : Nat) : DInv w (w.operations c).1 :=
  decomposed_dinv w w.depthFuel c w (DInv.refl w)

/-- `FlattenWf` from conditions on the heap itself: every object's link is an existing link, `c` is not a node of any
    graph (a top-level circuit), and the pure leaf listing of `c` has no object twice, only existing objects, not `c`. -/
theorem flattenWf_of_tree (w : World) (c : Nat)
    (hlin : ∀ j, (w.op j).link < w.links.size)
    (hcnode : ∀ o, ∀ e ∈ (w.op o).graph, e.node ≠ c)
    (hnd : (w.leafListing w.depthFuel c).Nodup)
    (hin : ∀ o ∈ w.leafListing w.depthFuel c, o < w.ops.size)
    (hcnot : c ∉ w.leafListing w.depthFuel c) : FlattenWf w c := by
  have hd := operations_dinv w c
  have hl := operations_eq_leafListing w c
  refine ⟨hlin c, hd.kept c hcnode, by rw [hl]; exact hcnot, by rw [hl]; exact hnd, ?_⟩
  intro o ho
  rw [hl] at ho
  obtain ⟨k, hk⟩ := hd.used o
  exact ⟨hin o ho, by rw [hk]; exact hlin k⟩

theorem operations_lnk (w : World) (c l : Nat) : (w.operations c).1.lnk l = w.lnk l :=
  World.lnk_of_links_eq (operations_links w c) l

theorem forall_op (w : World) (p : Op → Bool) (h : w.ops.toList.all p = true) (hd : p default = true) :
    ∀ j, p (w.op j) = true := by
  intro j
  unfold World.op
  rw [Array.getD_eq_getD_getElem?]
  by_cases hj : j < w.ops.size
  · rw [List.all_eq_true] at h
    have hm : w.ops[j] ∈ w.ops.toList := by simp
    simpa [hj] using h _ hm
  · have : w.ops[j]? = none := by simp; omega
    rw [this]; exact hd

theorem forall_lnk (w : World) (p : Link → Bool) (h : w.links.toList.all p = true) (hd : p default = true) :
    ∀ l, p (w.lnk l) = true := by
  intro l
  unfold World.lnk
  rw [Array.getD_eq_getD_getElem?]
  by_cases hl : l < w.links.size
  · rw [List.all_eq_true] at h
    have hm : w.links[l] ∈ w.links.toList := by simp
    simpa [hl] using h _ hm
  · have : w.links[l]? = none := by simp; omega
    rw [this]; exact hd

/-! the hypotheses that speak of every object or link, from Boolean checks of the stored arrays (decidable on a heap
literal) -/

theorem all_plain (w : World) (h : w.links.toList.all (fun L => !L.multi) = true) : ∀ l, (w.lnk l).multi = false :=
  fun l => by simpa using forall_lnk w (fun L => !L.multi) h rfl l

theorem all_in_range (w : World) (h : w.ops.toList.all (fun o => decide (o.link < w.links.size)) = true)
    (h0 : 0 < w.links.size) : ∀ j, (w.op j).link < w.links.size :=
  fun j => by
    simpa using forall_op w (fun o => decide (o.link < w.links.size)) h
      (decide_eq_true (show (default : Op).link < w.links.size from h0)) j

theorem not_a_node (w : World) (c : Nat) (h : w.ops.toList.all (fun o => o.graph.all (fun e => e.node != c)) = true) :
    ∀ o, ∀ e ∈ (w.op o).graph, e.node ≠ c := by
  intro o e he
  have := forall_op w (fun o => o.graph.all (fun e => e.node != c)) h rfl o
  simp only [List.all_eq_true, bne_iff_ne, ne_eq] at this
  exact this e he

/-- two heaps on which the evaluator gives the same answers (`sched_congr`): an object may have a different link in the
    two heaps when the link is reference-free in both. -/
structure SchedSame (w w' : World) : Prop where
  lnk : ∀ i, w'.lnk i = w.lnk i
  leafDur : ∀ d, w'.leafDur d = w.leafDur d
  comp : ∀ j, (w'.op j).isComp = (w.op j).isComp
  dur : ∀ j, (w'.op j).dur = (w.op j).dur
  empty : ∀ j, (w'.op j).graph.isEmpty = (w.op j).graph.isEmpty
  heads : ∀ j, heads (w'.op j).graph = heads (w.op j).graph
  listing : ∀ j, listing (w'.op j).graph = listing (w.op j).graph
  link : ∀ j, (w'.op j).link = (w.op j).link ∨
    ((w'.lnk (w'.op j).link).refs = [] ∧ (w.lnk (w.op j).link).refs = [])

theorem sched_congr {w w' : World} (h : SchedSame w w') : ∀ f,
    (∀ o, evLeadSpan w' f o = evLeadSpan w f o) ∧ (∀ o, evInterval w' f o = evInterval w f o) ∧
    (∀ o, evDur w' f o = evDur w f o) ∧ (∀ o, evStart w' f o = evStart w f o) ∧
    (∀ o, evEnd w' f o = evEnd w f o) ∧ (∀ l, evRef w' f l = evRef w f l) := by
  intro f
  induction f with
  | zero =>
    refine ⟨?_, ?_, ?_, ?_, ?_, ?_⟩ <;> intro o
    · rw [evLeadSpan.eq_1, evLeadSpan.eq_1]
    · rw [evInterval.eq_1, evInterval.eq_1]
    · rw [evDur.eq_1, evDur.eq_1]
    · rw [evStart.eq_1, evStart.eq_1]
    · rw [evEnd.eq_1, evEnd.eq_1]
    · rw [evRef.eq_1, evRef.eq_1]
  | succ f ih =>
    obtain ⟨i1, i2, i3, i4, i5, i6⟩ := ih
    have e4 : (fun n => evStart w' f n) = (fun n => evStart w f n) := funext i4
    have e2 : (fun n => evInterval w' f n) = (fun n => evInterval w f n) := funext i2
    have e5 : (fun r => (evEnd w' f r).map (fun e => (r, e))) = (fun r => (evEnd w f r).map (fun e => (r, e))) :=
      funext (fun r => by rw [i5 r])
    refine ⟨?_, ?_, ?_, ?_, ?_, ?_⟩ <;> intro o
    · rw [evLeadSpan.eq_2, evLeadSpan.eq_2]
      simp only [h.comp o, h.empty o, h.heads o, h.listing o, h.dur o, h.leafDur, e4, e2]
    · rw [evInterval.eq_2, evInterval.eq_2, i4 o, i1 o]
    · rw [evDur.eq_2, evDur.eq_2, i1 o]
    · rw [Qco.C10.evStart_succ, Qco.C10.evStart_succ, i3 o]
      rcases h.link o with hl | ⟨hl1, hl2⟩
      · rw [hl, i6, h.lnk]
        congr 1; funext d; congr 1; funext r
        cases r with
        | none => rfl
        | some r => simp only [i4 r, i5 r]
      · cases f with
        | zero => rw [evRef.eq_1, evRef.eq_1]; simp
        | succ f =>
          rw [Qco.C10.evRef_noref w' f _ hl1, Qco.C10.evRef_noref w f _ hl2]
          rfl
    · rw [evEnd.eq_2, evEnd.eq_2, i4 o, i3 o]
    · rw [evRef.eq_2, evRef.eq_2, h.lnk o, e5]
      split
      · rfl
      · split
        · rfl
        · rename_i r0 _ _
          simp only [i5 r0]

theorem sortedEntries_idem (g : List Entry) : sortedEntries (sortedEntries g) = sortedEntries g := by
  unfold sortedEntries
  exact List.mergeSort_of_pairwise (sortedEntries_pairwise g)

theorem listing_sortedEntries (g : List Entry) : listing (sortedEntries g) = listing g :=
  listing_of_sorted _ (sortedEntries_pairwise g)

theorem heads_sortedEntries (g : List Entry) : heads (sortedEntries g) = heads g := by
  unfold heads; rw [sortedEntries_idem]

theorem isEmpty_sortedEntries (g : List Entry) : (sortedEntries g).isEmpty = g.isEmpty := by
  have := (sortedEntries_perm g).length_eq
  cases hs : sortedEntries g <;> cases hg : g <;> simp_all

/-- handing a reference-free link down and sorting the entries of `c` changes no answer of the evaluator. -/
theorem HD.schedSame {w w' : World} (hd : HD w w') (c : Nat) :
    SchedSame w (w'.setGraph c (sortedEntries (w.op c).graph)) := by
  have hgraph : ∀ j, ((w'.setGraph c (sortedEntries (w.op c).graph)).op j).graph = (w.op j).graph ∨
      (j = c ∧ ((w'.setGraph c (sortedEntries (w.op c).graph)).op j).graph = sortedEntries (w.op c).graph) := by
    intro j
    rw [w'.op_setGraph]
    split
    · rename_i hj; exact Or.inr ⟨hj.1.symm, rfl⟩
    · exact Or.inl (hd.shape.graph j)
  have hfield : ∀ j, ∃ g', (w'.setGraph c (sortedEntries (w.op c).graph)).op j = { w'.op j with graph := g' } :=
    w'.op_setGraph_fields c _
  refine ⟨fun i => World.lnk_of_links_eq hd.links i, fun d => (w'.leafDur_setOp c _ d).trans (hd.leafDur d), ?_, ?_, ?_,
    ?_, ?_, ?_⟩
  · intro j
    obtain ⟨g', e⟩ := hfield j
    rw [e]; exact hd.shape.isComp j
  · intro j
    obtain ⟨g', e⟩ := hfield j
    rw [e]; exact hd.shape.dur j
  · intro j
    rcases hgraph j with e | ⟨rfl, e⟩ <;> rw [e]
    exact isEmpty_sortedEntries _
  · intro j
    rcases hgraph j with e | ⟨rfl, e⟩ <;> rw [e]
    exact heads_sortedEntries _
  · intro j
    rcases hgraph j with e | ⟨rfl, e⟩ <;> rw [e]
    exact listing_sortedEntries _
  · intro j
    rw [World.link_setGraph]
    cases hb : w.hasRel j with
    | true => exact Or.inl (hd.keep j hb)
    | false =>
      have := (w.hasRel_false_iff j).mp hb
      exact Or.inr ⟨(hd.refs j).trans this, this⟩

end Qco.Flat
