import QcoVerif.Lemmas.Relations
/-
  C10, library clause: a verified checker of symbolic schedules.

  A heap (the world the model builds for a recorded constructor program) is data.  A `Table` gives every object a
  start, a lead and a span as LINEAR FORMS in four non-negative variables; a `Regime` says how the global durations
  and the decoupling wait read in those variables.  `checkTable` checks the table against the LOCAL equations of the
  evaluator (minima / maxima of `leadSpan` justified by coefficient-wise dominance); then, for EVERY non-negative
  value of the variables, the evaluator answers the value of the table wherever it answers (`agree_all`).  The table
  is an untrusted certificate (tools/gen_c10_programs.py computes it).
-/
namespace Qco.C10

open Qco

structure Vars where
  x : Int
  y : Int
  fl : Int
  rs : Int

def Vars.Nonneg (v : Vars) : Prop := 0 ≤ v.x ∧ 0 ≤ v.y ∧ 0 ≤ v.fl ∧ 0 ≤ v.rs

/-- `c + a·x + b·y + f·fl + r·rs`. -/
structure LinForm where
  c : Int := 0
  a : Int := 0
  b : Int := 0
  f : Int := 0
  r : Int := 0
  deriving DecidableEq, Repr, Inhabited

namespace LinForm

def eval (p : LinForm) (v : Vars) : Int := p.c + p.a * v.x + p.b * v.y + p.f * v.fl + p.r * v.rs
def zero : LinForm := {}
def const (k : Int) : LinForm := { c := k }
def add (p q : LinForm) : LinForm := ⟨p.c + q.c, p.a + q.a, p.b + q.b, p.f + q.f, p.r + q.r⟩
def sub (p q : LinForm) : LinForm := ⟨p.c - q.c, p.a - q.a, p.b - q.b, p.f - q.f, p.r - q.r⟩
/-- the form is then non-negative for all non-negative variables (`eval_nonneg`). -/
def isNonneg (p : LinForm) : Bool :=
  decide (0 ≤ p.c) && decide (0 ≤ p.a) && decide (0 ≤ p.b) && decide (0 ≤ p.f) && decide (0 ≤ p.r)
def isZero (p : LinForm) : Bool := decide (p = zero)

@[simp] theorem eval_zero (v : Vars) : zero.eval v = 0 := by simp [eval, zero]
@[simp] theorem eval_const (k : Int) (v : Vars) : (const k).eval v = k := by simp [eval, const]
theorem eval_add (p q : LinForm) (v : Vars) : (p.add q).eval v = p.eval v + q.eval v := by
  simp only [eval, add, Int.add_mul]; omega
theorem eval_sub (p q : LinForm) (v : Vars) : (p.sub q).eval v = p.eval v - q.eval v := by
  simp only [eval, sub, Int.sub_mul]; omega

theorem eval_nonneg {p : LinForm} (h : p.isNonneg = true) {v : Vars} (hv : v.Nonneg) : 0 ≤ p.eval v := by
  simp only [isNonneg, Bool.and_eq_true, decide_eq_true_eq] at h
  obtain ⟨⟨⟨⟨h1, h2⟩, h3⟩, h4⟩, h5⟩ := h
  obtain ⟨v1, v2, v3, v4⟩ := hv
  have := Int.mul_nonneg h2 v1
  have := Int.mul_nonneg h3 v2
  have := Int.mul_nonneg h4 v3
  have := Int.mul_nonneg h5 v4
  simp only [eval]; omega

theorem le_of_sub_nonneg {p q : LinForm} (h : (q.sub p).isNonneg = true) {v : Vars} (hv : v.Nonneg) :
    p.eval v ≤ q.eval v := by
  have := eval_nonneg h hv
  rw [eval_sub] at this; omega

end LinForm

structure Row where
  start : LinForm := {}
  lead : LinForm := {}
  span : LinForm := {}
  lo : Nat := 0      -- composite: node whose interval starts earliest
  hi : Nat := 0      -- composite: node whose interval ends latest
  hd : Nat := 0      -- composite: depth-1 node that starts earliest
  deriving Inhabited, Repr

abbrev Table := Array Row

def Table.row (T : Table) (o : Nat) : Row := T.getD o default

def ivLo (T : Table) (m : Nat) : LinForm := (T.row m).start.sub (T.row m).lead
def ivHi (T : Table) (m : Nat) : LinForm := (ivLo T m).add (T.row m).span
def endF (T : Table) (m : Nat) : LinForm := (T.row m).start.add (T.row m).span

/-- how the readout / microwave durations and the decoupling wait read in the variables `x, y`
    (flux and reset are the variables `fl`, `rs`). -/
structure Regime where
  ro : LinForm
  mw : LinForm
  wait : LinForm

def Regime.world (R : Regime) (w : World) (v : Vars) : World :=
  { w with gRo := R.ro.eval v, gMw := R.mw.eval v, gFl := v.fl, gRs := v.rs }

def Regime.Valid (R : Regime) (v : Vars) : Prop :=
  max 0 ((R.ro.eval v - R.mw.eval v) / 2) = R.wait.eval v

def durForm (R : Regime) (w : World) : Dur → LinForm
  | .fixed d => .const d
  | .glob .ro => R.ro
  | .glob .mw => R.mw
  | .glob .fl => { f := 1 }
  | .glob .rs => { r := 1 }
  | .reg key => .const (((w.dreg.find? (·.1 == key)).map (·.2)).getD 0)
  | .decoupling => R.wait

theorem leafDur_eq (R : Regime) (w : World) (v : Vars) (hR : R.Valid v) (d : Dur) :
    (R.world w v).leafDur d = (durForm R w d).eval v := by
  cases d with
  | fixed d => simp [World.leafDur, durForm]
  | glob k => cases k <;> simp [World.leafDur, World.gdur, Regime.world, durForm, LinForm.eval]
  | reg key => simp [World.leafDur, durForm, Regime.world]
  | decoupling => simp only [World.leafDur, durForm, Regime.world]; exact hR

@[simp] theorem world_op (R : Regime) (w : World) (v : Vars) (o : Nat) : (R.world w v).op o = w.op o := rfl
@[simp] theorem world_lnk (R : Regime) (w : World) (v : Vars) (l : Nat) : (R.world w v).lnk l = w.lnk l := rfl

def linkStartForm (rel : Rel) (s e d : LinForm) : LinForm :=
  match rel with
  | .fb => e
  | .js => s
  | .je => e.sub d

theorem linkStartForm_eval (rel : Rel) (s e d : LinForm) (v : Vars) :
    (linkStartForm rel s e d).eval v = linkStart rel (some (s.eval v, e.eval v)) (d.eval v) := by
  cases rel <;> simp [linkStartForm, linkStart, LinForm.eval_sub]

def nodesOf (g : List Entry) : List Nat := g.map (·.node)
def headsOf (g : List Entry) : List Nat := (g.filter (fun e => e.parent.isNone)).map (·.node)

/-- lead / span of object `o`: for a sub-circuit the row names the nodes `lo`, `hi`, `hd` at which the minima and the
    maximum of `leadSpan` are attained, and every other node is dominated coefficient-wise. -/
def checkSpan (w : World) (R : Regime) (T : Table) (o : Nat) : Bool :=
  let op := w.op o
  let row := T.row o
  if op.isComp then
    if op.graph.isEmpty then decide (row.lead = .zero) && decide (row.span = .zero)
    else
      (nodesOf op.graph).all (fun m => decide (m < w.ops.size)) &&
      (nodesOf op.graph).contains row.lo && (nodesOf op.graph).contains row.hi &&
      (headsOf op.graph).contains row.hd &&
      (nodesOf op.graph).all (fun m => ((ivLo T m).sub (ivLo T row.lo)).isNonneg) &&
      (nodesOf op.graph).all (fun m => ((ivHi T row.hi).sub (ivHi T m)).isNonneg) &&
      (headsOf op.graph).all (fun h => ((T.row h).start.sub (T.row row.hd).start).isNonneg) &&
      decide (row.lead = (T.row row.hd).start.sub (ivLo T row.lo)) &&
      decide (row.span = (ivHi T row.hi).sub (ivLo T row.lo))
  else decide (row.lead = .zero) && decide (row.span = durForm R w op.dur)

/-- A multi link with references is rejected: which of them it follows depends on the values of the durations. -/
def checkStart (w : World) (T : Table) (o : Nat) : Bool :=
  let row := T.row o
  let L := w.lnk (w.op o).link
  if L.multi then L.refs.isEmpty && decide (row.start = .zero)
  else
    match L.refs.head? with
    | none => decide (row.start = .zero)
    | some r => decide (r < w.ops.size) &&
        decide (row.start = linkStartForm L.rel (T.row r).start (endF T r) row.span)

def checkTable (w : World) (R : Regime) (T : Table) : Bool :=
  (List.range w.ops.size).all (fun o => checkSpan w R T o && checkStart w T o)

theorem checkTable_obj {w : World} {R : Regime} {T : Table} (h : checkTable w R T = true) {o : Nat}
    (ho : o < w.ops.size) : checkSpan w R T o = true ∧ checkStart w T o = true := by
  unfold checkTable at h
  rw [List.all_eq_true] at h
  have := h o (List.mem_range.mpr ho)
  simpa [Bool.and_eq_true] using this

theorem mem_nodesOf {g : List Entry} {n : Nat} : n ∈ nodesOf g ↔ n ∈ listing g := by
  rw [mem_listing_iff]; unfold nodesOf; rw [List.mem_map]

theorem mem_headsOf {g : List Entry} {n : Nat} : n ∈ headsOf g ↔ n ∈ heads g := by
  rw [mem_heads]; unfold headsOf; rw [List.mem_map]
  constructor
  · rintro ⟨e, he, rfl⟩
    rw [List.mem_filter] at he
    refine ⟨e, he.1, ?_, rfl⟩
    cases hp : e.parent with
    | none => rfl
    | some p => have := he.2; simp [hp] at this
  · rintro ⟨e, he, hp, rfl⟩
    exact ⟨e, List.mem_filter.mpr ⟨he, by simp [hp]⟩, rfl⟩

theorem minOf_map_mapM {β} {g : Nat → Option β} {l : List Nat} {ys : List β} (h : l.mapM g = some ys) (π : β → Int)
    {F : Nat → Int} (hF : ∀ n ∈ l, ∀ y, g n = some y → π y = F n) {k : Nat} (hk : k ∈ l)
    (hdom : ∀ n ∈ l, F k ≤ F n) : minOf (ys.map π) = F k := by
  apply minOf_eq
  · obtain ⟨y, hy, hg⟩ := mapM_mem_left _ _ ys h k hk
    exact List.mem_map.mpr ⟨y, hy, hF k hk y hg⟩
  · intro x hx
    obtain ⟨y, hy, rfl⟩ := List.mem_map.mp hx
    obtain ⟨n, hn, hg⟩ := mapM_mem_right _ _ ys h y hy
    rw [hF n hn y hg]
    exact hdom n hn

theorem maxOf_map_mapM {β} {g : Nat → Option β} {l : List Nat} {ys : List β} (h : l.mapM g = some ys) (π : β → Int)
    {F : Nat → Int} (hF : ∀ n ∈ l, ∀ y, g n = some y → π y = F n) {k : Nat} (hk : k ∈ l)
    (hdom : ∀ n ∈ l, F n ≤ F k) : maxOf (ys.map π) = F k := by
  apply maxOf_eq
  · obtain ⟨y, hy, hg⟩ := mapM_mem_left _ _ ys h k hk
    exact List.mem_map.mpr ⟨y, hy, hF k hk y hg⟩
  · intro x hx
    obtain ⟨y, hy, rfl⟩ := List.mem_map.mp hx
    obtain ⟨n, hn, hg⟩ := mapM_mem_right _ _ ys h y hy
    rw [hF n hn y hg]
    exact hdom n hn

structure Agree (w' : World) (T : Table) (v : Vars) (n f : Nat) : Prop where
  ls : ∀ o, o < n → ∀ l s, evLeadSpan w' f o = some (l, s) →
        l = (T.row o).lead.eval v ∧ s = (T.row o).span.eval v
  st : ∀ o, o < n → ∀ s, evStart w' f o = some s → s = (T.row o).start.eval v
  en : ∀ o, o < n → ∀ e, evEnd w' f o = some e → e = (endF T o).eval v
  iv : ∀ o, o < n → ∀ a b, evInterval w' f o = some (a, b) →
        a = (ivLo T o).eval v ∧ b = (ivHi T o).eval v

theorem agree_zero (w' : World) (T : Table) (v : Vars) (n : Nat) : Agree w' T v n 0 :=
  ⟨fun o _ l s h => (by rw [evLeadSpan.eq_1] at h; cases h),
   fun o _ s h => (by rw [evStart.eq_1] at h; cases h),
   fun o _ e h => (by rw [evEnd.eq_1] at h; cases h),
   fun o _ a b h => (by rw [evInterval.eq_1] at h; cases h)⟩

/-- a duration is the span of a lead / span pair computed with one unit of fuel less, which is still that pair. -/
theorem Agree.dur {w' : World} {T : Table} {v : Vars} {n f : Nat} (ih : Agree w' T v n f) {o : Nat} (ho : o < n)
    {d : Int} (h : evDur w' f o = some d) : d = (T.row o).span.eval v := by
  cases f with
  | zero => rw [evDur.eq_1] at h; cases h
  | succ f' =>
    rw [evDur.eq_2] at h
    cases h3 : evLeadSpan w' f' o with
    | none => rw [h3] at h; cases h
    | some ls =>
      rw [h3] at h
      simp only [Option.map_some, Option.some.injEq] at h
      rw [← h]
      exact (ih.ls o ho ls.1 ls.2 ((ev_mono_step w' f').1 o ls h3)).2

theorem agree_succ {w : World} {R : Regime} {T : Table} (hok : checkTable w R T = true) {v : Vars}
    (hv : v.Nonneg) (hR : R.Valid v) {f : Nat} (ih : Agree (R.world w v) T v w.ops.size f) :
    Agree (R.world w v) T v w.ops.size (f + 1) := by
  refine ⟨?_, ?_, ?_, ?_⟩
  · intro o ho l s h
    have hc := (checkTable_obj hok ho).1
    unfold checkSpan at hc
    rw [evLeadSpan.eq_2] at h
    rw [show (R.world w v).op o = w.op o from rfl] at h
    by_cases hcomp : (w.op o).isComp = true
    · rw [if_pos hcomp] at h
      simp only [hcomp, if_true] at hc
      by_cases hemp : (w.op o).graph.isEmpty = true
      · rw [if_pos hemp] at h
        simp only [hemp, if_true, Bool.and_eq_true, decide_eq_true_eq] at hc
        simp only [Option.some.injEq, Prod.mk.injEq] at h
        rw [hc.1, hc.2]; simp [h.1.symm, h.2.symm]
      · rw [if_neg hemp] at h
        simp only [hemp, Bool.false_eq_true, if_false, Bool.and_eq_true, decide_eq_true_eq,
          List.all_eq_true, List.contains_iff_mem] at hc
        obtain ⟨⟨⟨⟨⟨⟨⟨⟨hlt, hlo⟩, hhi⟩, hhd⟩, hdomLo⟩, hdomHi⟩, hdomHd⟩, hlead⟩, hspan⟩ := hc
        simp only [Option.bind_eq_bind, Option.bind_eq_some_iff, Option.some.injEq, leadSpan, Prod.mk.injEq] at h
        obtain ⟨hs, h1, ivs, h2, h⟩ := h
        -- the nodes are objects of the heap, where the table is right by `ih`; the table's `hd`, `lo`, `hi` are
        -- nodes at which the minima and the maximum are attained (coefficient-wise dominance)
        have hnode : ∀ {n}, n ∈ listing (w.op o).graph → n < w.ops.size := fun hn => hlt _ (mem_nodesOf.mpr hn)
        have hmin := minOf_map_mapM h1 id
          (fun n hn y hy => ih.st n (hnode (heads_subset_listing hn)) y hy) (mem_headsOf.mp hhd)
          (fun n hn => LinForm.le_of_sub_nonneg (hdomHd n (mem_headsOf.mpr hn)) hv)
        rw [List.map_id] at hmin
        have hearly := minOf_map_mapM h2 (·.1)
          (fun n hn y hy => (ih.iv n (hnode hn) y.1 y.2 hy).1) (mem_nodesOf.mp hlo)
          (fun n hn => LinForm.le_of_sub_nonneg (hdomLo n (mem_nodesOf.mpr hn)) hv)
        have hlate := maxOf_map_mapM h2 (·.2)
          (fun n hn y hy => (ih.iv n (hnode hn) y.1 y.2 hy).2) (mem_nodesOf.mp hhi)
          (fun n hn => LinForm.le_of_sub_nonneg (hdomHi n (mem_nodesOf.mpr hn)) hv)
        rw [hlead, hspan, LinForm.eval_sub, LinForm.eval_sub, ← hmin, ← hearly, ← hlate]
        exact ⟨h.1.symm, h.2.symm⟩
    · rw [if_neg hcomp] at h
      simp only [hcomp, Bool.false_eq_true, if_false, Bool.and_eq_true, decide_eq_true_eq] at hc
      simp only [Option.some.injEq, Prod.mk.injEq] at h
      rw [hc.1, hc.2, ← leafDur_eq R w v hR]
      simp [h.1.symm, h.2.symm]
  · intro o ho s h
    have hc := (checkTable_obj hok ho).2
    unfold checkStart at hc
    rw [evStart_succ] at h
    rw [show (R.world w v).op o = w.op o from rfl,
        show (R.world w v).lnk (w.op o).link = w.lnk (w.op o).link from rfl] at h
    simp only [Option.bind_eq_some_iff] at h
    obtain ⟨d, h1, r, h2, h⟩ := h
    have hd := ih.dur ho h1
    cases f with
    | zero => rw [evRef.eq_1] at h2; cases h2
    | succ f' =>
      rw [evRef.eq_2] at h2
      by_cases hm : (w.lnk (w.op o).link).multi = true
      · simp only [hm, if_true, Bool.and_eq_true, decide_eq_true_eq, List.isEmpty_iff] at hc
        simp only [world_lnk, hm, Bool.not_true, Bool.false_eq_true, if_false, hc.1, Option.some.injEq] at h2
        subst h2
        simp only [Option.some.injEq] at h
        rw [hc.2, ← h]; simp [linkStart]
      · have hm' : (w.lnk (w.op o).link).multi = false := by simpa using hm
        simp only [hm', Bool.false_eq_true, if_false] at hc
        simp only [world_lnk, hm', Bool.not_false, if_true, Option.some.injEq] at h2
        subst h2
        cases hr : (w.lnk (w.op o).link).refs.head? with
        | none =>
          rw [hr] at h hc
          simp only [decide_eq_true_eq] at hc
          simp only [Option.some.injEq] at h
          rw [hc, ← h]; simp [linkStart]
        | some r =>
          rw [hr] at h hc
          simp only [Bool.and_eq_true, decide_eq_true_eq] at hc
          simp only [Option.bind_eq_some_iff, Option.some.injEq] at h
          obtain ⟨sr, h5, er, h6, rfl⟩ := h
          rw [hc.2, linkStartForm_eval, ← ih.st r hc.1 sr h5, ← ih.en r hc.1 er h6, ← hd]
  · intro o ho e h
    rw [evEnd.eq_2] at h
    simp only [Option.bind_eq_bind, Option.bind_eq_some_iff, Option.some.injEq] at h
    obtain ⟨s, h1, d, h2, rfl⟩ := h
    rw [endF, LinForm.eval_add, ← ih.st o ho s h1, ← ih.dur ho h2]
  · intro o ho a b h
    rw [evInterval.eq_2] at h
    simp only [Option.bind_eq_bind, Option.bind_eq_some_iff, Option.some.injEq, Prod.mk.injEq] at h
    obtain ⟨s, h1, ⟨l, d⟩, h2, rfl, rfl⟩ := h
    have hls := ih.ls o ho l d h2
    rw [ivHi, LinForm.eval_add, ivLo, LinForm.eval_sub, ← ih.st o ho s h1, ← hls.1, ← hls.2]
    exact ⟨rfl, rfl⟩

/-- **Soundness of the table check**: every answer of the evaluator, under every non-negative value of the
    variables, is the value of the table. -/
theorem agree_all {w : World} {R : Regime} {T : Table} (hok : checkTable w R T = true) {v : Vars}
    (hv : v.Nonneg) (hR : R.Valid v) : ∀ f, Agree (R.world w v) T v w.ops.size f := by
  intro f
  induction f with
  | zero => exact agree_zero _ _ _ _
  | succ f ih => exact agree_succ hok hv hR ih

theorem start_eq_table {w : World} {R : Regime} {T : Table} (hok : checkTable w R T = true) {v : Vars}
    (hv : v.Nonneg) (hR : R.Valid v) {o : Nat} (ho : o < w.ops.size) {s : Int}
    (h : Start (R.world w v) o s) : s = (T.row o).start.eval v := by
  obtain ⟨f, hf⟩ := h
  exact (agree_all hok hv hR f).st o ho s hf

theorem end_eq_table {w : World} {R : Regime} {T : Table} (hok : checkTable w R T = true) {v : Vars}
    (hv : v.Nonneg) (hR : R.Valid v) {o : Nat} (ho : o < w.ops.size) {e : Int}
    (h : End (R.world w v) o e) : e = (endF T o).eval v := by
  obtain ⟨f, hf⟩ := h
  exact (agree_all hok hv hR f).en o ho e hf

/-- leaf operations below composite `c` (sub-circuits expanded), by recursion on the nesting depth. -/
def contents (w : World) : Nat → Nat → List Nat
  | 0, _ => []
  | f+1, c => (w.op c).graph.flatMap (fun e =>
      if (w.op e.node).isComp then contents w f e.node else [e.node])

theorem contents_leaf (w : World) : ∀ (f c : Nat), ∀ a ∈ contents w f c, (w.op a).isComp = false := by
  intro f
  induction f with
  | zero => intro c a ha; cases ha
  | succ f ih =>
    intro c a ha
    rw [contents, List.mem_flatMap] at ha
    obtain ⟨e, _, hae⟩ := ha
    split at hae
    · exact ih _ a hae
    · rename_i hc
      simp only [List.mem_singleton] at hae
      subst hae
      simpa using hc

/-- two leaf operations share a channel (`ChannelIdentifier` matching: same qubit, and same channel or one side
    `ALL`). -/
def sharesChannel (a b : Op) : Bool := a.leafChans.any (fun x => b.leafChans.any (fun y => x.matches y))

def disjointRows (T : Table) (a b : Nat) : Bool :=
  ((T.row b).start.sub (endF T a)).isNonneg || ((T.row a).start.sub (endF T b)).isNonneg

def mustBeDisjoint (w : World) (T : Table) (a b : Nat) : Bool :=
  sharesChannel (w.op a) (w.op b) &&
  ((w.op a).cls == .barrier || (w.op b).cls == .barrier ||
   (!(T.row a).span.isZero && !(T.row b).span.isZero))

def checkPairs (w : World) (T : Table) (xs : List Nat) : Bool :=
  xs.all (fun a => decide (a < w.ops.size) &&
    xs.all (fun b => a == b || !mustBeDisjoint w T a b || disjointRows T a b))

def scheduleOk (w : World) (R : Regime) (T : Table) (c : Nat) : Bool :=
  checkTable w R T && checkPairs w T (contents w (w.ops.size + 2) c)

/-- **No double booking** of circuit `c` in world `w`: any two distinct leaf operations below `c` that share a
    channel and are both of non-zero length, or one of which is a barrier, occupy disjoint intervals. -/
def NoDoubleBooking (w : World) (c : Nat) : Prop :=
  ∀ a ∈ contents w (w.ops.size + 2) c, ∀ b ∈ contents w (w.ops.size + 2) c, a ≠ b →
    sharesChannel (w.op a) (w.op b) = true →
    ∀ sa ea sb eb, Start w a sa → End w a ea → Start w b sb → End w b eb →
      ((sa < ea ∧ sb < eb) ∨ (w.op a).cls = .barrier ∨ (w.op b).cls = .barrier) →
      ¬ (sa < eb ∧ sb < ea)

theorem contents_world (R : Regime) (w : World) (v : Vars) (f c : Nat) :
    contents (R.world w v) f c = contents w f c := by
  induction f generalizing c with
  | zero => rfl
  | succ f ih =>
    show ((w.op c).graph.flatMap (fun e =>
      if (w.op e.node).isComp then contents (R.world w v) f e.node else [e.node])) = _
    simp only [ih]
    rfl

theorem isZero_span_eq_false {T : Table} {a : Nat} {v : Vars} (h : (T.row a).start.eval v < (endF T a).eval v) :
    (T.row a).span.isZero = false := by
  cases hz : (T.row a).span.isZero with
  | false => rfl
  | true =>
    simp only [LinForm.isZero, decide_eq_true_eq] at hz
    rw [endF, LinForm.eval_add, hz, LinForm.eval_zero] at h
    omega

/-- **Soundness of `scheduleOk`**: a successful check excludes double booking for every non-negative value
    of the variables. -/
theorem scheduleOk_sound {w : World} {R : Regime} {T : Table} {c : Nat} (hok : scheduleOk w R T c = true)
    {v : Vars} (hv : v.Nonneg) (hR : R.Valid v) : NoDoubleBooking (R.world w v) c := by
  unfold scheduleOk at hok
  rw [Bool.and_eq_true] at hok
  obtain ⟨htab, hpairs⟩ := hok
  intro a ha b hb hab hsh sa ea sb eb hsa hea hsb heb hreq
  have hsz : (R.world w v).ops.size = w.ops.size := rfl
  rw [hsz, contents_world] at ha hb
  unfold checkPairs at hpairs
  rw [List.all_eq_true] at hpairs
  have hpa := hpairs a ha
  have hpb := hpairs b hb
  rw [Bool.and_eq_true, decide_eq_true_eq, List.all_eq_true] at hpa hpb
  have halt := hpa.1
  have hblt := hpb.1
  have hpab := hpa.2 b hb
  have e1 := start_eq_table htab hv hR halt hsa
  have e2 := end_eq_table htab hv hR halt hea
  have e3 := start_eq_table htab hv hR hblt hsb
  have e4 := end_eq_table htab hv hR hblt heb
  simp only [world_op] at hsh hreq
  have hmust : mustBeDisjoint w T a b = true := by
    unfold mustBeDisjoint
    rw [Bool.and_eq_true]
    refine ⟨hsh, ?_⟩
    rcases hreq with ⟨h1, h2⟩ | h | h
    · have za := isZero_span_eq_false (T := T) (a := a) (v := v) (by rw [← e1, ← e2]; exact h1)
      have zb := isZero_span_eq_false (T := T) (a := b) (v := v) (by rw [← e3, ← e4]; exact h2)
      simp [za, zb]
    · simp [h]
    · simp [h]
  have hne : (a == b) = false := by simpa using hab
  rw [hne, hmust] at hpab
  simp only [Bool.not_true, Bool.false_or] at hpab
  unfold disjointRows at hpab
  rw [Bool.or_eq_true] at hpab
  rcases hpab with h | h
  · have := LinForm.le_of_sub_nonneg h hv
    omega
  · have := LinForm.le_of_sub_nonneg h hv
    omega

/-- readout ≥ microwave with an even difference: microwave = y, readout = y + 2x, wait = x. -/
def regimeA : Regime := { ro := { a := 2, b := 1 }, mw := { b := 1 }, wait := { a := 1 } }
/-- readout < microwave: readout = x, microwave = x + y + 1, wait = 0. -/
def regimeB : Regime := { ro := { a := 1 }, mw := { c := 1, a := 1, b := 1 }, wait := {} }

theorem regimeA_valid {v : Vars} (hv : v.Nonneg) : regimeA.Valid v := by
  obtain ⟨h1, _, _, _⟩ := hv
  simp only [Regime.Valid, regimeA, LinForm.eval]
  omega

theorem regimeB_valid {v : Vars} (hv : v.Nonneg) : regimeB.Valid v := by
  obtain ⟨h1, h2, _, _⟩ := hv
  simp only [Regime.Valid, regimeB, LinForm.eval]
  omega

def withDurations (w : World) (ro mw fl rs : Int) : World :=
  { w with gRo := ro, gMw := mw, gFl := fl, gRs := rs }

/-- Every setting of non-negative durations (readout − microwave even when it is non-negative: the integer time unit
    can always be halved, the decoupling wait is half the difference) is the setting of regime A or of regime B for
    some non-negative value of the variables. -/
theorem forall_durations_of_regimes {P : World → Prop} {w : World}
    (hA : ∀ v : Vars, v.Nonneg → regimeA.Valid v → P (regimeA.world w v))
    (hB : ∀ v : Vars, v.Nonneg → regimeB.Valid v → P (regimeB.world w v))
    {ro mw fl rs : Int} (hro : 0 ≤ ro) (hmw : 0 ≤ mw) (hfl : 0 ≤ fl) (hrs : 0 ≤ rs)
    (heven : mw ≤ ro → (ro - mw) % 2 = 0) : P (withDurations w ro mw fl rs) := by
  by_cases hle : mw ≤ ro
  · have h0 : 0 ≤ (ro - mw) / 2 := by omega
    have hv : (Vars.mk ((ro - mw) / 2) mw fl rs).Nonneg := ⟨h0, hmw, hfl, hrs⟩
    have hw : regimeA.world w ⟨(ro - mw) / 2, mw, fl, rs⟩ = withDurations w ro mw fl rs := by
      have := heven hle
      simp only [Regime.world, regimeA, LinForm.eval, withDurations]
      congr 1 <;> omega
    exact hw ▸ hA _ hv (regimeA_valid hv)
  · have h0 : 0 ≤ mw - ro - 1 := by omega
    have hv : (Vars.mk ro (mw - ro - 1) fl rs).Nonneg := ⟨hro, h0, hfl, hrs⟩
    have hw : regimeB.world w ⟨ro, mw - ro - 1, fl, rs⟩ = withDurations w ro mw fl rs := by
      simp only [Regime.world, regimeB, LinForm.eval, withDurations]
      congr 1 <;> omega
    exact hw ▸ hB _ hv (regimeB_valid hv)

/-- A circuit whose schedule checks in both regimes is free of double booking for ALL non-negative durations. -/
theorem noDoubleBooking_of_both_regimes {w : World} {c : Nat} {TA TB : Table}
    (hA : scheduleOk w regimeA TA c = true) (hB : scheduleOk w regimeB TB c = true)
    {ro mw fl rs : Int} (hro : 0 ≤ ro) (hmw : 0 ≤ mw) (hfl : 0 ≤ fl) (hrs : 0 ≤ rs)
    (heven : mw ≤ ro → (ro - mw) % 2 = 0) : NoDoubleBooking (withDurations w ro mw fl rs) c :=
  forall_durations_of_regimes (P := (NoDoubleBooking · c)) (fun _ hv hR => scheduleOk_sound hA hv hR)
    (fun _ hv hR => scheduleOk_sound hB hv hR) hro hmw hfl hrs heven

/-- one recorded library circuit: the world the model builds for the recorded constructor program, the circuit
    that the constructor returned, and a schedule table per regime (certificates). -/
structure Case where
  name : String
  w : World
  c : Nat
  tA : Table
  tB : Table

def Case.ok (x : Case) : Bool := scheduleOk x.w regimeA x.tA x.c && scheduleOk x.w regimeB x.tB x.c

end Qco.C10
