import QcoVerif.Generated.PySrc
import QcoVerif.Lemmas.PyAttr
/-
  The `py_simp` tactic, which runs the interpreter of Model/PyLang.lean symbolically on a (closed) translated function;
  the bridge between model values and mini-Python values; the lemmas for loops.  Core Lean only.

  The interpreter is not unfolded statement by statement; it is run through the equations of the first part (attribute
  `py_eval`): one per kind of statement at the head of a block, the lookup equations of the store and of an object's
  fields, one per builtin.  A test on a Boolean that is a variable leaves an `if`; the blocks after it are run in
  both branches, so the result of a run is a tree of `if`s over the tests the function makes, not a stuck `match`.
  A run stops at a `for` statement: loops go through the lemmas on invariants of the last part, whose hypothesis on
  one round is again shown by a run.
-/
namespace Qco.Py

/-! `isErr` by constructor, not by unfolding: on an encoding that `py_simp` leaves folded (`chanVal c`, `optNode o`) the
test then waits for the encoding's own lemma instead of becoming a stuck `match`. -/

@[py_eval] theorem Val.isErr_int (i : Int) : (Val.int i).isErr = false := rfl
@[py_eval] theorem Val.isErr_bool (b : Bool) : (Val.bool b).isErr = false := rfl
@[py_eval] theorem Val.isErr_none : Val.none.isErr = false := rfl
@[py_eval] theorem Val.isErr_str (s : String) : (Val.str s).isErr = false := rfl
@[py_eval] theorem Val.isErr_list (xs : List Val) : (Val.list xs).isErr = false := rfl
@[py_eval] theorem Val.isErr_tuple (xs : List Val) : (Val.tuple xs).isErr = false := rfl
@[py_eval] theorem Val.isErr_arr (xs : List Val) : (Val.arr xs).isErr = false := rfl
@[py_eval] theorem Val.isErr_enum (c m : String) : (Val.enum c m).isErr = false := rfl
@[py_eval] theorem Val.isErr_obj (c : String) (i : Nat) (fs : List (String × Val)) : (Val.obj c i fs).isErr = false := rfl
@[py_eval] theorem Val.isErr_err (w : String) : (Val.err w).isErr = true := rfl

/-! ### the store and the fields of an object

Neither is unfolded: a store stays the chain of `set`s that built it, and a lookup walks down the chain. -/

@[py_eval] theorem Vars.get_set (vs : Vars) (x y : String) (v : Val) :
    (vs.set x v).get y = if x = y then v else vs.get y := by
  unfold Vars.get Vars.set
  by_cases h : x = y
  · simp [h]
  · have hf : ∀ l : Vars, (l.filter (fun p => !(p.1 == x))).find? (fun p => p.1 == y) = l.find? (fun p => p.1 == y) := by
      intro l
      induction l with
      | nil => rfl
      | cons p ps ih =>
        by_cases hp : p.1 = x
        · simp [hp, ih, h]
        · simp [List.find?_cons, hp, ih]
    simp [h, hf]

theorem vars_set_set (vs : Vars) (x : String) (v v' : Val) : (vs.set x v).set x v' = vs.set x v' := by
  unfold Vars.set
  simp only [List.filter_cons, beq_self_eq_true, Bool.not_true, Bool.false_eq_true, if_false, List.filter_filter,
    Bool.and_self]

/-- attribute access on an object (on an encoding that stays folded, through the encoding's own lemmas). -/
@[py_eval] theorem getAttr_obj (env : Env) (c : String) (i : Nat) (fs : List (String × Val)) (a : String) :
    getAttr env (.obj c i fs) a =
      (match lookupField fs a with
       | some x => x
       | none => (env.attr c i fs a).getD (.err ("no attribute " ++ a))) := rfl

@[py_eval] theorem lookupField_cons (k a : String) (v : Val) (fs : List (String × Val)) :
    lookupField ((k, v) :: fs) a = if k = a then some v else lookupField fs a := by
  by_cases h : k = a <;> simp [lookupField, h]

@[py_eval] theorem lookupField_nil (a : String) : lookupField [] a = none := rfl

/-! ### tests on Booleans

Stated before the defining equations of `eval` are tried (`↓`): theirs match on `truthy`, which a variable leaves stuck. -/

section Tests
variable (env : Env) (vs : Vars)

@[py_eval ↓] theorem eval_not (a : Expr) :
    eval env vs (.not a) = (match eval env vs a with | .bool b => .bool (!b) | _ => .err "not: not a bool") := by
  simp only [eval]; cases eval env vs a <;> rfl

@[py_eval ↓] theorem eval_and (a b : Expr) :
    eval env vs (.and a b) =
      (match eval env vs a with
       | .bool x => if x then (match eval env vs b with | .bool y => .bool y | _ => .err "and: not a bool") else .bool false
       | _ => .err "and: not a bool") := by
  simp only [eval]
  cases eval env vs a <;> simp [Val.truthy]
  rename_i x; cases x <;> simp
  cases eval env vs b <;> simp

@[py_eval ↓] theorem eval_or (a b : Expr) :
    eval env vs (.or a b) =
      (match eval env vs a with
       | .bool x => if x then .bool true else (match eval env vs b with | .bool y => .bool y | _ => .err "or: not a bool")
       | _ => .err "or: not a bool") := by
  simp only [eval]
  cases eval env vs a <;> simp [Val.truthy]
  rename_i x; cases x <;> simp
  cases eval env vs b <;> simp

@[py_eval ↓] theorem eval_ite (c t e : Expr) :
    eval env vs (.ite c t e) =
      (match eval env vs c with
       | .bool b => if b then eval env vs t else eval env vs e
       | _ => .err "if-expression: not a bool") := by
  simp only [eval]
  cases eval env vs c <;> simp [Val.truthy]
  rename_i b; cases b <;> simp

end Tests

@[py_eval] theorem Val.bool_ite (c : Prop) [Decidable c] (a b : Bool) :
    (if c then Val.bool a else Val.bool b) = Val.bool (if c then a else b) := by
  split <;> rfl

/-! A test on a variable that survives in the model's value: the `if` is brought to the top there too. -/

@[py_eval] theorem Val.int_ite (c : Prop) [Decidable c] (a b : Int) :
    Val.int (if c then a else b) = if c then Val.int a else Val.int b := apply_ite ..
@[py_eval] theorem Val.list_ite (c : Prop) [Decidable c] (a b : List Val) :
    Val.list (if c then a else b) = if c then Val.list a else Val.list b := apply_ite ..
@[py_eval] theorem Val.arr_ite (c : Prop) [Decidable c] (a b : List Val) :
    Val.arr (if c then a else b) = if c then Val.arr a else Val.arr b := apply_ite ..
@[py_eval] theorem List.map_ite {α β} (f : α → β) (c : Prop) [Decidable c] (a b : List α) :
    (if c then a else b).map f = if c then a.map f else b.map f := apply_ite ..

/-! ### builtins

`builtin` is one `match` over thirty-odd patterns: unfolding it makes `simp` try them all at every call, and prove the
side conditions of the last one for a name that is none of them. -/

def builtinNames : List String :=
  ["max", "min", "len", "abs", "int", "float", "int_truediv", "bool", "range", "list", "tuple", "sorted", "sum", "any",
   "np.any", "zip", "all", "reversed", "dict_of", "set", "dict", "tqdm", "np.asarray", "np.array"]

/-- a name outside `builtinNames` is left to the environment's `func` hook. -/
theorem builtin_none (f : String) (args : List Val) (h : f ∉ builtinNames) : builtin f args = none := by
  simp only [builtinNames, List.mem_cons, List.not_mem_nil, or_false, not_or] at h
  unfold builtin
  split <;> first | rfl | (exfalso; simp_all)

/-- `isinstance` is such a name: an environment answers it by class name. -/
@[py_eval] theorem builtin_isinstance (args : List Val) : builtin "isinstance" args = none :=
  builtin_none _ _ (by simp [builtinNames])

@[py_eval] theorem builtin_len (v : Val) : builtin "len" [v] = v.elems?.map (fun xs => .int xs.length) := by rw [builtin]
@[py_eval] theorem builtin_list (v : Val) : builtin "list" [v] = v.elems?.map .list := by rw [builtin]
@[py_eval] theorem builtin_np_asarray (v : Val) : builtin "np.asarray" [v] = v.elems?.map .arr := by rw [builtin]
@[py_eval] theorem builtin_float (v : Val) : builtin "float" [v] = v.asInt?.map .int := by rw [builtin]
@[py_eval] theorem builtin_any (v : Val) :
    builtin "any" [v] = v.elems?.map (fun xs => .bool (xs.any (fun x => x.truthy == some true))) := by rw [builtin]
@[py_eval] theorem builtin_np_any (v : Val) :
    builtin "np.any" [v] = v.elems?.map (fun xs => .bool (xs.any (fun x => x.truthy == some true))) := by rw [builtin]
@[py_eval] theorem builtin_all (v : Val) :
    builtin "all" [v] = v.elems?.map (fun xs => .bool (xs.all (fun x => x.truthy == some true))) := by rw [builtin]
@[py_eval] theorem builtin_sorted (v : Val) :
    builtin "sorted" [v] = (match v.elems? with
      | some xs => (intsOf? xs).map (fun is => .list ((sortInts is).map .int))
      | none => some (.err "sorted: not a sequence")) := by rw [builtin]; rfl
/-- `min` / `max` of two: not in the evaluation set (the running minimum from `inf` has its own equations, Lemmas/SpanSrc.lean). -/
theorem builtin_max2 (a b : Val) :
    builtin "max" [a, b] = (match minMaxInf false a b with
      | some v => some v
      | none => (intsOf? [a, b]).map maxInts) := by rw [builtin]; rfl
theorem builtin_min2 (a b : Val) :
    builtin "min" [a, b] = (match minMaxInf true a b with
      | some v => some v
      | none => (intsOf? [a, b]).map minInts) := by rw [builtin]; rfl
@[py_eval] theorem builtin_range (b : Val) : builtin "range" [b] = b.asInt?.map (fun b => .list (rangeVals 0 b)) := by
  rw [builtin]
@[py_eval] theorem builtin_range2 (a b : Val) :
    builtin "range" [a, b] = (match a.asInt?, b.asInt? with
      | some a, some b => some (.list (rangeVals a b))
      | _, _ => some (.err "range")) := by rw [builtin]; rfl
@[py_eval] theorem builtin_zip3 (a b c : Val) :
    builtin "zip" [a, b, c] = (match a.elems?, b.elems?, c.elems? with
      | some xs, some ys, some zs =>
          some (.list (List.zipWith (fun x yz => Val.tuple (x :: yz)) xs (List.zipWith (fun y z => [y, z]) ys zs)))
      | _, _, _ => Option.none) := by rw [builtin]; rfl
@[py_eval] theorem builtin_tqdm (v : Val) (rest : List Val) : builtin "tqdm" (v :: rest) = some v := by rw [builtin]
@[py_eval] theorem builtin_dict_of (kvs : List Val) : builtin "dict_of" kvs = some (.list (pairUp kvs)) := by rw [builtin]
@[py_eval] theorem builtin_set : builtin "set" [] = some (.list []) := by rw [builtin]

section Blocks
variable (env : Env) (vs : Vars)

theorem execBlock_append (a b : List Stmt) :
    execBlock env vs (a ++ b) = (match execBlock env vs a with | .cont vs' => execBlock env vs' b | o => o) := by
  induction a generalizing vs with
  | nil => rfl
  | cons s ss ih =>
    simp only [List.cons_append, execBlock]
    cases exec env vs s <;> simp [ih]

@[py_eval] theorem execBlock_nil : execBlock env vs [] = .cont vs := rfl

@[py_eval] theorem execBlock_assign (x : String) (e : Expr) (rest : List Stmt) :
    execBlock env vs (.assign x e :: rest) =
      if (eval env vs e).isErr then .raised "error value assigned" else execBlock env (vs.set x (eval env vs e)) rest := by
  simp only [execBlock, exec]; cases (eval env vs e).isErr <;> rfl

@[py_eval] theorem execBlock_aug (x : String) (op : BinOp) (e : Expr) (rest : List Stmt) :
    execBlock env vs (.aug x op e :: rest) =
      if (evalBin op (vs.get x) (eval env vs e)).isErr then .raised "error value assigned"
      else execBlock env (vs.set x (evalBin op (vs.get x) (eval env vs e))) rest := by
  simp only [execBlock, exec]; cases (evalBin op (vs.get x) (eval env vs e)).isErr <;> rfl

@[py_eval] theorem execBlock_assignTuple (xs : List String) (e : Expr) (rest : List Stmt) :
    execBlock env vs (.assignTuple xs e :: rest) =
      (match (eval env vs e).elems? with
       | some vals => (match bindTuple xs vals vs with | some vs' => execBlock env vs' rest | none => .raised "unpack")
       | none => .raised "unpack of a non-sequence") := by
  simp only [execBlock, exec]
  cases (eval env vs e).elems? with
  | none => rfl
  | some vals => simp only []; cases bindTuple xs vals vs <;> rfl

@[py_eval] theorem execBlock_ret (e : Expr) (rest : List Stmt) :
    execBlock env vs (.ret e :: rest) = .ret (eval env vs e) := rfl

@[py_eval] theorem execBlock_raise (what : String) (rest : List Stmt) :
    execBlock env vs (.raise what :: rest) = .raised what := rfl

/-- the branch taken, then the rest of the block: on a test that is a variable, both. -/
@[py_eval] theorem execBlock_ifs (c : Expr) (t e rest : List Stmt) :
    execBlock env vs (.ifs c t e :: rest) =
      (match eval env vs c with
       | .bool b => if b then execBlock env vs (t ++ rest) else execBlock env vs (e ++ rest)
       | _ => .raised "if: not a bool") := by
  simp only [execBlock, exec, execBlock_append]
  cases h : eval env vs c <;> simp only [Val.truthy]
  rename_i b; cases b <;> rfl

@[py_eval] theorem execBlock_setattr (obj e : Expr) (a : String) (rest : List Stmt) :
    execBlock env vs (.setattr obj a e :: rest) =
      if (eval env vs obj).isErr || (eval env vs e).isErr then .raised "error value in attribute assignment"
      else execBlock env vs rest := by
  simp only [execBlock, exec]; cases ((eval env vs obj).isErr || (eval env vs e).isErr) <;> rfl

@[py_eval] theorem execBlock_setitem (obj key e : Expr) (rest : List Stmt) :
    execBlock env vs (.setitem obj key e :: rest) =
      if (eval env vs obj).isErr || (eval env vs key).isErr || (eval env vs e).isErr then .raised "error value in item assignment"
      else execBlock env vs rest := by
  simp only [execBlock, exec]
  cases ((eval env vs obj).isErr || (eval env vs key).isErr || (eval env vs e).isErr) <;> rfl

@[py_eval] theorem execBlock_expr_mcall (recv : Expr) (m : String) (args : List Expr) (rest : List Stmt) :
    execBlock env vs (.expr (.mcall recv m args) :: rest) =
      if (eval env vs recv).isErr || (evalList env vs args).any Val.isErr then .raised "error value in call"
      else execBlock env vs rest := by
  simp only [execBlock, exec]; cases ((eval env vs recv).isErr || (evalList env vs args).any Val.isErr) <;> rfl

@[py_eval] theorem execBlock_expr_call (f : String) (args : List Expr) (rest : List Stmt) :
    execBlock env vs (.expr (.call f args) :: rest) =
      if (evalList env vs args).any Val.isErr then .raised "error value in call" else execBlock env vs rest := by
  simp only [execBlock, exec]; cases (evalList env vs args).any Val.isErr <;> rfl

end Blocks

section Effects
variable (env : Env) (vs : Vars)

theorem effBlock_append (a b : List Stmt) :
    effBlock env vs (a ++ b) =
      effBlock env vs a ++ (match execBlock env vs a with | .cont vs' => effBlock env vs' b | _ => []) := by
  induction a generalizing vs with
  | nil => rfl
  | cons s ss ih =>
    simp only [List.cons_append, effBlock, execBlock]
    cases exec env vs s <;> simp [ih]

@[py_eval] theorem effBlock_nil : effBlock env vs [] = [] := rfl

@[py_eval] theorem effBlock_assign (x : String) (e : Expr) (rest : List Stmt) :
    effBlock env vs (.assign x e :: rest) =
      if (eval env vs e).isErr then [] else effBlock env (vs.set x (eval env vs e)) rest := by
  simp only [effBlock, effStmt, exec, List.nil_append]; cases (eval env vs e).isErr <;> rfl

@[py_eval] theorem effBlock_aug (x : String) (op : BinOp) (e : Expr) (rest : List Stmt) :
    effBlock env vs (.aug x op e :: rest) =
      if (evalBin op (vs.get x) (eval env vs e)).isErr then []
      else effBlock env (vs.set x (evalBin op (vs.get x) (eval env vs e))) rest := by
  simp only [effBlock, effStmt, exec, List.nil_append]; cases (evalBin op (vs.get x) (eval env vs e)).isErr <;> rfl

@[py_eval] theorem effBlock_ret (e : Expr) (rest : List Stmt) :
    effBlock env vs (.ret e :: rest) = [] := rfl

@[py_eval] theorem effBlock_ifs (c : Expr) (t e rest : List Stmt) :
    effBlock env vs (.ifs c t e :: rest) =
      (match eval env vs c with
       | .bool b => if b then effBlock env vs (t ++ rest) else effBlock env vs (e ++ rest)
       | _ => []) := by
  simp only [effBlock, effStmt, exec, effBlock_append]
  cases h : eval env vs c <;> simp only [Val.truthy, List.nil_append]
  rename_i b; cases b <;> rfl

@[py_eval] theorem effBlock_setattr (obj e : Expr) (a : String) (rest : List Stmt) :
    effBlock env vs (.setattr obj a e :: rest) =
      .tuple [.str "setattr", eval env vs obj, .str a, eval env vs e] ::
        (if (eval env vs obj).isErr || (eval env vs e).isErr then [] else effBlock env vs rest) := by
  simp only [effBlock, effStmt, exec]; cases ((eval env vs obj).isErr || (eval env vs e).isErr) <;> rfl

@[py_eval] theorem effBlock_setitem (obj key e : Expr) (rest : List Stmt) :
    effBlock env vs (.setitem obj key e :: rest) =
      .tuple [.str "setitem", eval env vs obj, eval env vs key, eval env vs e] ::
        (if (eval env vs obj).isErr || (eval env vs key).isErr || (eval env vs e).isErr then [] else effBlock env vs rest) := by
  simp only [effBlock, effStmt, exec]
  cases ((eval env vs obj).isErr || (eval env vs key).isErr || (eval env vs e).isErr) <;> rfl

@[py_eval] theorem effBlock_expr_mcall (recv : Expr) (m : String) (args : List Expr) (rest : List Stmt) :
    effBlock env vs (.expr (.mcall recv m args) :: rest) =
      .tuple (.str "call" :: eval env vs recv :: .str m :: evalList env vs args) ::
        (if (eval env vs recv).isErr || (evalList env vs args).any Val.isErr then [] else effBlock env vs rest) := by
  simp only [effBlock, effStmt, exec]; cases ((eval env vs recv).isErr || (evalList env vs args).any Val.isErr) <;> rfl

@[py_eval] theorem effBlock_expr_call (f : String) (args : List Expr) (rest : List Stmt) :
    effBlock env vs (.expr (.call f args) :: rest) =
      .tuple (.str "call" :: .none :: .str f :: evalList env vs args) ::
        (if (evalList env vs args).any Val.isErr then [] else effBlock env vs rest) := by
  simp only [effBlock, effStmt, exec]; cases (evalList env vs args).any Val.isErr <;> rfl

end Effects

/-- what the caller of a function sees of the outcome of its body. -/
def Outcome.val : Outcome → Val
  | .ret v => v
  | .cont _ => .none
  | .raised what => .err ("raised: " ++ what)

@[py_eval] theorem callFn_eq (env : Env) (fn : FnDef) (args : List Val) :
    callFn env fn args = if fn.params.length != args.length then .err "arity" else
      (execBlock env (bindParams fn.params args []) fn.body).val := by
  unfold callFn Outcome.val; split <;> rfl

theorem callFn_of_arity (env : Env) (fn : FnDef) (args : List Val) (h : fn.params.length = args.length) :
    callFn env fn args = (execBlock env (bindParams fn.params args []) fn.body).val := by
  rw [callFn_eq, if_neg (by simp [h])]

theorem callEffects_of_arity (env : Env) (fn : FnDef) (args : List Val) (h : fn.params.length = args.length) :
    callEffects env fn args = effBlock env (bindParams fn.params args []) fn.body := by
  rw [callEffects, if_neg (by simp [h])]

@[py_eval] theorem Outcome.val_ret (v : Val) : (Outcome.ret v).val = v := rfl
@[py_eval] theorem Outcome.val_cont (vs : Vars) : (Outcome.cont vs).val = .none := rfl
@[py_eval] theorem Outcome.val_raised (w : String) : (Outcome.raised w).val = .err ("raised: " ++ w) := rfl
@[py_eval] theorem Outcome.val_ite (c : Prop) [Decidable c] (a b : Outcome) :
    (if c then a else b).val = if c then a.val else b.val := by
  split <;> rfl

attribute [py_eval] callEffects eval evalList bindParams bindTuple evalBin evalCmp Val.asInt? Val.truthy Val.elems?
  intBin intsOf? maxInts minInts minMaxInf indexVal forLoop Val.beq Val.beqList

/-- symbolic evaluation: `simp` with the equations tagged `py_eval` and the given ones (the translated function, the
    encodings of its arguments, the hooks of its environment). -/
macro "py_simp" " [" ls:Lean.Parser.Tactic.simpLemma,* "]" : tactic => `(tactic| simp [py_eval, $ls,*])

def ints (l : List Int) : Val := .list (l.map .int)
/-- natural numbers (qubit identifiers, counts) as Python ints. -/
def nats (l : List Nat) : Val := .list (l.map (fun (n : Nat) => Val.int n))

attribute [py_eval] ints nats

@[simp] theorem val_beq_eq (a b : Val) : (a == b) = Val.beq a b := rfl

@[simp] theorem memVal_ints (l : List Int) (e : Int) : memVal (Val.int e) (l.map Val.int) = decide (e ∈ l) := by
  unfold memVal
  induction l with
  | nil => rfl
  | cons a as ih =>
    rw [List.map_cons, List.any_cons, ih]
    show ((a == e) || decide (e ∈ as)) = decide (e ∈ a :: as)
    by_cases h : a = e
    · subst h; simp
    · have h2 : ¬ (e = a) := fun h' => h h'.symm
      simp [h, h2]

@[simp] theorem memVal_nats (l : List Nat) (e : Nat) :
    memVal (Val.int e) (l.map (fun (n : Nat) => Val.int n)) = decide (e ∈ l) := by
  have h : l.map (fun (n : Nat) => Val.int n) = (l.map (fun (n : Nat) => (n : Int))).map Val.int := by
    rw [List.map_map]; rfl
  rw [h, memVal_ints]
  simp [Int.natCast_inj]

@[simp] theorem natCast_beq (a b : Nat) : ((a : Int) == (b : Int)) = (a == b) := by
  rw [Bool.eq_iff_iff]; simp [Int.natCast_inj]

@[simp] theorem natCast_beq_zero (a : Nat) : ((a : Int) == 0) = (a == 0) := natCast_beq a 0
@[simp] theorem natCast_beq_one (a : Nat) : ((a : Int) == 1) = (a == 1) := natCast_beq a 1

@[simp] theorem intsOf_ints (l : List Int) : intsOf? (l.map Val.int) = some l := by
  induction l with
  | nil => rfl
  | cons a as ih => simp [intsOf?, Val.asInt?, ih]

theorem intsOf_append (xs ys : List Val) :
    intsOf? (xs ++ ys) = (match intsOf? xs, intsOf? ys with | some a, some b => some (a ++ b) | _, _ => Option.none) := by
  induction xs with
  | nil => cases h : intsOf? ys <;> simp [intsOf?, h]
  | cons v vs ih =>
    simp only [List.cons_append, intsOf?, ih]
    cases v.asInt? <;> cases intsOf? vs <;> cases intsOf? ys <;> simp

@[simp] theorem intsOf_ints_append (a : List Int) (ys : List Val) :
    intsOf? (a.map Val.int ++ ys) = (intsOf? ys).map (fun b => a ++ b) := by
  rw [intsOf_append, intsOf_ints]
  cases intsOf? ys <;> rfl

theorem rangeVals_eq (a : Int) (n : Nat) : rangeVals a (a + n) = (List.range n).map (fun (i : Nat) => Val.int (a + i)) := by
  unfold rangeVals
  have : (a + (n : Int) - a).toNat = n := by omega
  rw [this]

/-- `any(t(x) for x in l)`, `all(…)`: the comprehension of a test is a list of `Val.bool`s. -/
theorem any_truthy_bool {α} (l : List α) (f : α → Bool) :
    (l.map (fun a => Val.bool (f a))).any (fun x => x.truthy == some true) = l.any f := by
  induction l with
  | nil => rfl
  | cons a as ih =>
    rw [List.map_cons, List.any_cons, List.any_cons, ih]
    cases f a <;> rfl

theorem all_truthy_bool {α} (l : List α) (f : α → Bool) :
    (l.map (fun a => Val.bool (f a))).all (fun x => x.truthy == some true) = l.all f := by
  induction l with
  | nil => rfl
  | cons a as ih =>
    rw [List.map_cons, List.all_cons, List.all_cons, ih]
    cases f a <;> rfl

theorem indexVal_map_zero {α} (f : α → Val) (a : α) (l : List α) :
    indexVal (.list ((a :: l).map f)) 0 = f a := by
  simp [indexVal, Val.elems?]

theorem indexVal_map_last {α} (f : α → Val) (l : List α) (a : α) (h : l.getLast? = some a) :
    indexVal (.list (l.map f)) (-1) = f a := by
  have hne : l ≠ [] := by intro h0; rw [h0] at h; cases h
  have hlen : 0 < l.length := List.length_pos_iff.mpr hne
  have hj : ((l.map f).length : Int) + -1 = ((l.length - 1 : Nat) : Int) := by
    rw [List.length_map]; omega
  have hidx : (l.map f)[l.length - 1]? = some (f a) := by
    rw [List.getElem?_map]
    have : l[l.length - 1]? = some a := by
      rw [← List.getLast?_eq_getElem?]; exact h
    rw [this]; rfl
  simp only [indexVal, Val.elems?]
  have hneg : ((-1 : Int) < 0) := by omega
  simp only [hneg, if_true, hj]
  have hnn : ¬ (((l.length - 1 : Nat) : Int) < 0) := by omega
  simp only [hnn, if_false, Int.toNat_natCast, hidx, Option.getD_some]

/-- a round of a loop is shown by one run of `py_simp`: it turns the body into `cont` of a chain of `set`s, and `P` of that
    chain into lookups. -/
def Outcome.contWith (o : Outcome) (P : Vars → Prop) : Prop :=
  match o with
  | .cont vs => P vs
  | _ => False

@[py_eval] theorem Outcome.contWith_cont (vs : Vars) (P : Vars → Prop) : (Outcome.cont vs).contWith P = P vs := rfl

@[py_eval] theorem Outcome.contWith_ite (c : Prop) [Decidable c] (a b : Outcome) (P : Vars → Prop) :
    (if c then a else b).contWith P = if c then a.contWith P else b.contWith P := by
  split <;> rfl

theorem Outcome.contWith_elim {o : Outcome} {P : Vars → Prop} (h : o.contWith P) : ∃ vs, o = .cont vs ∧ P vs := by
  cases o with
  | cont vs => exact ⟨vs, rfl, h⟩
  | ret v => exact h.elim
  | raised w => exact h.elim

theorem block_append_cont (env : Env) (vs : Vars) (a b : List Stmt) (P : Vars → Prop)
    (h : (execBlock env vs a).contWith P) :
    ∃ vs', P vs' ∧ execBlock env vs (a ++ b) = execBlock env vs' b ∧
      effBlock env vs (a ++ b) = effBlock env vs a ++ effBlock env vs' b := by
  obtain ⟨vs', h1, h2⟩ := Outcome.contWith_elim h
  exact ⟨vs', h2, by rw [execBlock_append, h1], by rw [effBlock_append, h1]⟩

/-! ### loops that run to the end

The body keeps an invariant of the store that may speak of the elements done so far, and performs effects `E x` that depend on
the element only: the loop ends in a store with the invariant of the whole list, having performed `l.flatMap E`. -/

theorem forLoop_inv_eff {β : Type} (body : Vars → Val → Outcome) (eff : Vars → Val → List Val) (enc : β → Val)
    (I : List β → Vars → Prop) (E : β → List Val)
    (step : ∀ done x vs, I done vs → (body vs (enc x)).contWith (I (done ++ [x])) ∧ eff vs (enc x) = E x)
    (l : List β) (vs : Vars) (h : I [] vs) :
    ∃ vs', forLoop body (l.map enc) vs = .cont vs' ∧ I l vs' ∧ forEff body eff (l.map enc) vs = l.flatMap E := by
  suffices ∀ (l done : List β) (vs : Vars), I done vs →
      ∃ vs', forLoop body (l.map enc) vs = .cont vs' ∧ I (done ++ l) vs' ∧ forEff body eff (l.map enc) vs = l.flatMap E by
    simpa using this l [] vs h
  intro l
  induction l with
  | nil => intro done vs h; exact ⟨vs, rfl, by simpa using h, rfl⟩
  | cons x xs ih =>
    intro done vs h
    obtain ⟨h2, h3⟩ := step done x vs h
    obtain ⟨vs1, h1, h2⟩ := Outcome.contWith_elim h2
    obtain ⟨vs', g1, g2, g3⟩ := ih (done ++ [x]) vs1 h2
    exact ⟨vs', by simp only [List.map_cons, forLoop, h1, g1], by simpa using g2,
      by simp only [List.map_cons, forEff, h1, h3, g3, List.flatMap_cons]⟩

theorem forLoop_inv {β : Type} (body : Vars → Val → Outcome) (enc : β → Val) (I : List β → Vars → Prop)
    (step : ∀ done x vs, I done vs → (body vs (enc x)).contWith (I (done ++ [x])))
    (l : List β) (vs : Vars) (h : I [] vs) :
    ∃ vs', forLoop body (l.map enc) vs = .cont vs' ∧ I l vs' := by
  obtain ⟨vs', h1, h2, _⟩ := forLoop_inv_eff body (fun _ _ => []) enc I (fun _ => [])
    (fun done x vs h => ⟨step done x vs h, rfl⟩) l vs h
  exact ⟨vs', h1, h2⟩

theorem execBlock_for (env : Env) (vs : Vars) (x : String) (iter : Expr) (body rest : List Stmt) (vals : List Val)
    (h : (eval env vs iter).elems? = some vals) :
    execBlock env vs (.for_ x iter body :: rest) =
      (match forLoop (fun vs' v => execBlock env (vs'.set x v) body) vals vs with
       | .cont vs' => execBlock env vs' rest
       | o => o) := by
  simp only [execBlock, exec, h]
  cases forLoop (fun vs' v => execBlock env (vs'.set x v) body) vals vs <;> rfl

theorem effBlock_for (env : Env) (vs : Vars) (x : String) (iter : Expr) (body rest : List Stmt) (vals : List Val)
    (h : (eval env vs iter).elems? = some vals) :
    effBlock env vs (.for_ x iter body :: rest) =
      forEff (fun vs' v => execBlock env (vs'.set x v) body) (fun vs' v => effBlock env (vs'.set x v) body) vals vs ++
      (match forLoop (fun vs' v => execBlock env (vs'.set x v) body) vals vs with
       | .cont vs' => effBlock env vs' rest
       | _ => []) := by
  simp only [effBlock, effStmt, exec, h]
  cases forLoop (fun vs' v => execBlock env (vs'.set x v) body) vals vs <;> rfl

theorem block_for_inv {β : Type} (env : Env) (x : String) (iter : Expr) (body rest : List Stmt) (enc : β → Val)
    (I : List β → Vars → Prop) (E : β → List Val) (l : List β) (vs : Vars)
    (hiter : (eval env vs iter).elems? = some (l.map enc))
    (step : ∀ done y vs, I done vs → (execBlock env (vs.set x (enc y)) body).contWith (I (done ++ [y])) ∧
      effBlock env (vs.set x (enc y)) body = E y)
    (h : I [] vs) :
    ∃ vs', I l vs' ∧ execBlock env vs (.for_ x iter body :: rest) = execBlock env vs' rest ∧
      effBlock env vs (.for_ x iter body :: rest) = l.flatMap E ++ effBlock env vs' rest := by
  obtain ⟨vs', h1, h2, h3⟩ := forLoop_inv_eff (fun vs v => execBlock env (vs.set x v) body)
    (fun vs v => effBlock env (vs.set x v) body) enc I E step l vs h
  exact ⟨vs', h2, by rw [execBlock_for _ _ _ _ _ _ _ hiter, h1], by rw [effBlock_for _ _ _ _ _ _ _ hiter, h1, h3]⟩

theorem execBlock_for_inv {β : Type} (env : Env) (x : String) (iter : Expr) (body rest : List Stmt) (enc : β → Val)
    (I : List β → Vars → Prop) (l : List β) (vs : Vars)
    (hiter : (eval env vs iter).elems? = some (l.map enc))
    (step : ∀ done y vs, I done vs → (execBlock env (vs.set x (enc y)) body).contWith (I (done ++ [y])))
    (h : I [] vs) :
    ∃ vs', I l vs' ∧ execBlock env vs (.for_ x iter body :: rest) = execBlock env vs' rest := by
  obtain ⟨vs', h1, h2⟩ := forLoop_inv (fun vs v => execBlock env (vs.set x v) body) enc I step l vs h
  exact ⟨vs', h2, by rw [execBlock_for _ _ _ _ _ _ _ hiter, h1]⟩

/-! ### loops that return from the first element with `p`, or run to the end keeping `I` -/

theorem forLoop_find {β : Type} (body : Vars → Val → Outcome) (enc : β → Val) (I : Vars → Prop) (p : β → Bool) (R : β → Val)
    (step : ∀ x vs, I vs → if p x then body vs (enc x) = .ret (R x) else (body vs (enc x)).contWith I) :
    ∀ (l : List β) (vs : Vars), I vs →
      match l.find? p with
      | some x => forLoop body (l.map enc) vs = .ret (R x)
      | none => ∃ vs', forLoop body (l.map enc) vs = .cont vs' ∧ I vs' := by
  intro l
  induction l with
  | nil => intro vs h; exact ⟨vs, rfl, h⟩
  | cons x xs ih =>
    intro vs h
    have hs := step x vs h
    cases hp : p x
    · rw [hp, if_neg (by simp)] at hs
      obtain ⟨vs1, h1, h2⟩ := Outcome.contWith_elim hs
      simpa only [List.map_cons, forLoop, h1, List.find?_cons, hp] using ih vs1 h2
    · rw [hp, if_pos rfl] at hs
      simp only [List.map_cons, forLoop, hs, List.find?_cons, hp]

theorem execBlock_for_find {β : Type} (env : Env) (x : String) (iter : Expr) (body rest : List Stmt) (enc : β → Val)
    (I : Vars → Prop) (p : β → Bool) (R : β → Val) (l : List β) (vs : Vars)
    (hiter : (eval env vs iter).elems? = some (l.map enc))
    (step : ∀ y vs, I vs → if p y then execBlock env (vs.set x (enc y)) body = .ret (R y)
      else (execBlock env (vs.set x (enc y)) body).contWith I)
    (h : I vs) :
    match l.find? p with
    | some y => execBlock env vs (.for_ x iter body :: rest) = .ret (R y)
    | none => ∃ vs', I vs' ∧ execBlock env vs (.for_ x iter body :: rest) = execBlock env vs' rest := by
  have L := forLoop_find (fun vs v => execBlock env (vs.set x v) body) enc I p R step l vs h
  rw [execBlock_for _ _ _ _ _ _ _ hiter]
  cases hf : l.find? p with
  | none => rw [hf] at L; obtain ⟨vs', h1, h2⟩ := L; exact ⟨vs', h2, by rw [h1]⟩
  | some y => rw [hf] at L; simp only [L]

end Qco.Py
