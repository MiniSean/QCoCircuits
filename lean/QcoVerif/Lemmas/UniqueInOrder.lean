import QcoVerif.Model.Builder
/-
  `uniqueInOrder` (Model/Builder.lean) keeps exactly the elements of its input: used by Lemmas/Draw.lean and by
  Properties/C19.lean, which holds the other laws of `unique_in_order`.
-/
namespace Qco

theorem uniqueInOrder_mem {α : Type _} [BEq α] [LawfulBEq α] (l : List α) (y : α) :
    y ∈ uniqueInOrder l ↔ y ∈ l := by
  induction l with
  | nil => simp [uniqueInOrder]
  | cons x xs ih =>
    simp only [uniqueInOrder, List.mem_cons, List.mem_filter, ih, Bool.not_eq_eq_eq_not, Bool.not_true,
      beq_eq_false_iff_ne, ne_eq]
    by_cases h : y = x <;> simp [h]

end Qco
