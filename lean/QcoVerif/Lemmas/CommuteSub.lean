import QcoVerif.Lemmas.Commute
/-
  C03 — the listing of `c` commutes with `c.add_sub_circuit(sub)` when `sub` is a separate tree and the heap has no
  group links (`listing_then_addSub`).  `add_sub_circuit` is a copy followed by an `add`, and the `add` is covered by
  `listing_then_add`; what is shown here is that the copy made in the listed heap is the listed copy: `copyObj` reads no
  link of an object outside the copied tree, provided the lookup keys it reads are identities or keys of objects the
  listing does not write to (`copyObj_local`, `KeyFree`), and listing `c` in the heap extended by the copy does to the
  old objects what it does in the old heap (`decomposed_ext`), for every fuel that covers the depth (`decomposed_fuel`).
  Core Lean only.
-/
namespace Qco.Commute

theorem decomposed_fuel : ∀ (f g g' c : Nat) (y : World), TreeBelow y f c → (y.op c).isComp = true → f ≤ g → f ≤ g' →
    y.decomposed g c = y.decomposed g' c := by
  intro f
  induction f with
  | zero => intro g g' c y h; exact h.elim
  | succ f ih =>
    intro g g' c y ht hc hg hg'
    cases g with
    | zero => omega
    | succ g =>
      cases g' with
      | zero => omega
      | succ g' =>
        rw [decomposed_succ, decomposed_succ]
        apply foldl_congr_inv (fun acc : World × List Nat => Shape acc.1 y ∧ acc.1.ops.size = y.ops.size)
        · intro acc n hn hacc
          have ht' : TreeBelow y f n := ht.kid hc ((mem_listing_kids y c n).mp hn)
          have hs1 : Shape (pre (y.op c).link acc.1 n) y := pre_shape _ hacc.1 n
          have ht1 : TreeBelow (pre (y.op c).link acc.1 n) f n :=
            tree_congr y _ (by rw [pre_size, hacc.2]; exact Nat.le_refl _) f n ht' (fun j _ => hs1.2 j)
          rw [decompStep_eq, decompStep_eq]
          split
          · rename_i hcn
            rw [ih g g' n _ ht1 hcn (by omega) (by omega)]
          · rfl
        · intro acc n _ hacc
          rw [decompStep_fst]
          exact ⟨wstep_shape g _ hacc.1 n, by rw [wstep_size]; exact hacc.2⟩
        · exact ⟨Shape.refl y, rfl⟩

/-- two heaps of possibly different size that agree on the objects `Xs` (all of them existing in both, with links below
    `K`) and on the links below `K`. -/
def SimReg (K : Nat) (Xs : List Nat) (y z : World) : Prop :=
  (∀ l, l < K → z.lnk l = y.lnk l) ∧
  ∀ j ∈ Xs, z.op j = y.op j ∧ (y.op j).link < K ∧ j < y.ops.size ∧ j < z.ops.size

theorem simReg_spec (K : Nat) (Xs : List Nat) : SimSpec (fun n => n ∈ Xs) (fun k => k < K) (SimReg K Xs) := by
  refine ⟨?_, ?_, ?_, ?_⟩
  · intro y z n k h hn hk
    refine ⟨h.1, ?_⟩
    intro j hj
    obtain ⟨a1, a2, a3, a4⟩ := h.2 j hj
    obtain ⟨b1, _, b3, b4⟩ := h.2 n hn
    refine ⟨?_, ?_, by rw [World.ops_size_setLink]; exact a3, by rw [World.ops_size_setLink]; exact a4⟩
    · rw [World.op_setLink, World.op_setLink, b1, a1]
      simp only [b3, b4, and_true]
    · rw [World.op_setLink]
      split
      · exact hk
      · exact a2
  · intro y z n h hn
    exact World.hasRel_congr (h.2 n hn).1 (h.1 _ (h.2 n hn).2.1)
  · intro y z n h hn
    exact (h.2 n hn).1
  · intro y z n h hn
    exact (h.2 n hn).2.1

def LinksExt (y y' : World) : Prop := y.links.size ≤ y'.links.size ∧ ∀ l, l < y.links.size → y'.lnk l = y.lnk l

theorem LinksExt.refl (y : World) : LinksExt y y := ⟨Nat.le_refl _, fun _ _ => rfl⟩

theorem LinksExt.trans {a b c : World} (h1 : LinksExt a b) (h2 : LinksExt b c) : LinksExt a c :=
  ⟨Nat.le_trans h1.1 h2.1, fun l hl => (h2.2 l (Nat.lt_of_lt_of_le hl h1.1)).trans (h1.2 l hl)⟩

theorem LinksExt.of_eq {a b : World} (h : b.links = a.links) : LinksExt a b :=
  ⟨by rw [h]; exact Nat.le_refl _, fun l _ => World.lnk_of_links_eq h l⟩

theorem decomposed_ext (y z : World) (g c : Nat) (hl : LinksExt y z)
    (hr : ∀ j, (y.op j).link < y.links.size)
    (hX : ∀ j ∈ c :: reach y g c, z.op j = y.op j ∧ j < y.ops.size ∧ j < z.ops.size) :
    ∀ j ∈ c :: reach y g c, (z.decomposed g c).1.op j = (y.decomposed g c).1.op j := by
  have h0 : SimReg y.links.size (c :: reach y g c) y z :=
    ⟨hl.2, fun j hj => ⟨(hX j hj).1, hr j, (hX j hj).2.1, (hX j hj).2.2⟩⟩
  have := decomposed_sim (simReg_spec y.links.size (c :: reach y g c)) g c y z h0 List.mem_cons_self
    (fun j hj => List.mem_cons_of_mem _ hj)
  intro j hj
  exact (this.2 j hj).1

/-- the invariant under which the copy is analysed: no group link anywhere, every object's link is an existing link. -/
structure CInv (y : World) : Prop where
  single : ∀ l, (y.lnk l).multi = false
  range : ∀ j, (y.op j).link < y.links.size

/-- `z` is `y` up to the links of the objects in `X`. -/
def SimX (X : Nat → Prop) (y z : World) : Prop :=
  OpsOnly y z ∧ z.ops.size = y.ops.size ∧ (∀ j, ¬ X j → z.op j = y.op j) ∧ (∀ j, (z.op j).noLink = (y.op j).noLink)

theorem SimX.shape {X : Nat → Prop} {y z : World} (h : SimX X y z) : Shape z y :=
  ⟨by rw [h.1], h.2.2.2⟩

theorem SimX.links {X : Nat → Prop} {y z : World} (h : SimX X y z) : z.links = y.links := h.1.links

theorem SimX.ident {X : Nat → Prop} {y z : World} (h : SimX X y z) : z.identKeys = y.identKeys := by rw [h.1]

theorem eqKey_ident (y : World) (h : y.identKeys = true) (r : Nat) : y.eqKey r = .ident r := by
  unfold World.eqKey
  simp [h]

theorem eqKey_of_ops {y y' : World} (ho : y'.ops = y.ops) (hi : y'.identKeys = y.identKeys) (r : Nat) :
    y'.eqKey r = y.eqKey r := World.eqKey_congr hi (World.op_of_ops_eq ho r)

/-- the keys `copyObj` reads when it copies object `j` — the key of the reference of its link and, for a measurement,
    of its registry — do not depend on the links of the objects of `X`: the lookup is keyed by identity, or these objects
    are not in `X`. -/
def KeyFree (X : Nat → Prop) (y : World) (j : Nat) : Prop :=
  y.identKeys = true ∨
    ((∀ r, (y.lnk (y.op j).link).refs.head? = some r → ¬ X r) ∧ ((y.op j).cls = .measure → ¬ X (y.op j).reg))

theorem KeyFree.mono {X X' : Nat → Prop} (h : ∀ r, X r → X' r) {y : World} {j : Nat} (hk : KeyFree X' y j) :
    KeyFree X y j := by
  rcases hk with hi | ⟨h1, h2⟩
  · exact Or.inl hi
  · exact Or.inr ⟨fun r hr hx => h1 r hr (h r hx), fun hm hx => h2 hm (h _ hx)⟩

theorem KeyFree.link {X : Nat → Prop} {y z : World} {j : Nat} (h : SimX X y z) (hk : KeyFree X y j) (r : Nat)
    (hr : (y.lnk (y.op j).link).refs.head? = some r) : z.eqKey r = y.eqKey r := by
  rcases hk with hi | ⟨h1, _⟩
  · rw [eqKey_ident y hi, eqKey_ident z (by rw [h.ident]; exact hi)]
  · exact World.eqKey_congr h.ident (h.2.2.1 r (h1 r hr))

theorem KeyFree.reg {X : Nat → Prop} {y z : World} {j : Nat} (h : SimX X y z) (hk : KeyFree X y j)
    (hm : (y.op j).cls = .measure) : z.eqKey (y.op j).reg = y.eqKey (y.op j).reg := by
  rcases hk with hi | ⟨_, h2⟩
  · rw [eqKey_ident y hi, eqKey_ident z (by rw [h.ident]; exact hi)]
  · exact World.eqKey_congr h.ident (h.2.2.1 _ (h2 hm))

theorem simX_newLink {X : Nat → Prop} {y z : World} (h : SimX X y z) (L : Link) :
    SimX X (y.newLink L).1 (z.newLink L).1 ∧ (z.newLink L).2 = (y.newLink L).2 := by
  obtain ⟨h1, h2, h3, h4⟩ := h
  refine ⟨⟨?_, h2, h3, h4⟩, by show z.links.size = y.links.size; rw [h1.links]⟩
  obtain ⟨O, rfl⟩ := opsOnly_exists h1
  rfl

theorem cinv_newLink {y : World} (h : CInv y) (L : Link) (hL : L.multi = false) : CInv (y.newLink L).1 := by
  refine ⟨?_, ?_⟩
  · intro l
    rw [World.lnk_newLink]
    split
    · exact hL
    · exact h.single l
  · intro j
    show (y.op j).link < (y.links.push L).size
    have := h.range j
    simp only [Array.size_push]
    omega

theorem simX_newOp {X : Nat → Prop} {y z : World} (h : SimX X y z) (v : Op) :
    SimX X (y.newOp v).1 (z.newOp v).1 ∧ (z.newOp v).2 = (y.newOp v).2 := by
  obtain ⟨h1, h2, h3, h4⟩ := h
  refine ⟨⟨?_, ?_, ?_, ?_⟩, h2⟩
  · obtain ⟨O, rfl⟩ := opsOnly_exists h1
    rfl
  · show (z.ops.push v).size = (y.ops.push v).size
    simp only [Array.size_push, h2]
  · intro j hj
    rw [World.op_newOp, World.op_newOp, h2, h3 j hj]
  · intro j
    rw [World.op_newOp, World.op_newOp, h2]
    split
    · rfl
    · exact h4 j

theorem cinv_newOp {y : World} (h : CInv y) (v : Op) (hv : v.link < y.links.size) : CInv (y.newOp v).1 := by
  refine ⟨h.single, ?_⟩
  intro j
  rw [World.op_newOp]
  split
  · exact hv
  · exact h.range j

theorem simX_copyLink {X : Nat → Prop} {y z : World} (h : SimX X y z) (hc : CInv y) (l : Nat) (lk : Lookup)
    (hk : ∀ r, (y.lnk l).refs.head? = some r → z.eqKey r = y.eqKey r) :
    SimX X (y.copyLink l lk).1 (z.copyLink l lk).1 ∧ (z.copyLink l lk).2 = (y.copyLink l lk).2 := by
  have hzl : z.lnk l = y.lnk l := World.lnk_of_links_eq h.links l
  have hL : copyRefs z l lk = copyRefs y l lk := by
    unfold copyRefs
    rw [hzl]
    cases hh : (y.lnk l).refs.head? with
    | none => rfl
    | some r => simp only [hk r hh]
  rw [copyLink_single y l lk (hc.single l), copyLink_single z l lk (by rw [hzl]; exact hc.single l), hzl, hL]
  exact simX_newLink h _

theorem cinv_copyLink {y : World} (hc : CInv y) (l : Nat) (lk : Lookup) :
    CInv (y.copyLink l lk).1 ∧ (y.copyLink l lk).1.ops = y.ops ∧ (y.copyLink l lk).2 = y.links.size ∧
    (y.copyLink l lk).1.links.size = y.links.size + 1 ∧ LinksExt y (y.copyLink l lk).1 ∧
    (y.copyLink l lk).1.identKeys = y.identKeys := by
  obtain ⟨he, hops, hsnd, hlsz⟩ := Ext.copyLink y l lk
  refine ⟨?_, hops, hsnd, hlsz, ⟨he.lnksz, he.oldlnk⟩, he.ident⟩
  rw [copyLink_single y l lk (hc.single l)]
  exact cinv_newLink hc _ rfl

theorem simX_copyLeaf {X : Nat → Prop} {y z : World} (h : SimX X y z) (hc : CInv y) (o : Nat) (ho : ¬ X o)
    (lk : Lookup) (hk : KeyFree X y o) :
    SimX X (y.copyLeaf o lk).1 (z.copyLeaf o lk).1 ∧ (z.copyLeaf o lk).2 = (y.copyLeaf o lk).2 := by
  rw [copyLeaf_eq y o lk, copyLeaf_eq z o lk, h.2.2.1 o ho]
  obtain ⟨h1, h2⟩ := simX_copyLink h hc (y.op o).link lk (fun r hr => hk.link h r hr)
  obtain ⟨_, c2, _, _, _, c6⟩ := cinv_copyLink hc (y.op o).link lk
  have hky : ∀ r, (y.copyLink (y.op o).link lk).1.eqKey r = y.eqKey r := fun r => eqKey_of_ops c2 c6 r
  have hzs : (z.lnk (y.op o).link).multi = false := by
    rw [World.lnk_of_links_eq h.links]; exact hc.single _
  have e1 : (z.copyLink (y.op o).link lk).1.ops = z.ops := by
    rw [copyLink_single z _ lk hzs]; rfl
  have e2 : (z.copyLink (y.op o).link lk).1.identKeys = z.identKeys := by
    rw [copyLink_single z _ lk hzs]; rfl
  have hkz : ∀ r, (z.copyLink (y.op o).link lk).1.eqKey r = z.eqKey r := fun r => eqKey_of_ops e1 e2 r
  rw [h2, hky, hkz]
  by_cases hm : (y.op o).cls = .measure
  · rw [hk.reg h hm]
    exact simX_newOp h1 _
  · have hm' : ((y.op o).cls == Cls.measure) = false := by simpa using hm
    simp only [hm', Bool.false_eq_true, if_false]
    exact simX_newOp h1 _

theorem cinv_copyLeaf {y : World} (hc : CInv y) (o : Nat) (lk : Lookup) :
    CInv (y.copyLeaf o lk).1 ∧ (y.copyLeaf o lk).1.ops.size = y.ops.size + 1 ∧ (y.copyLeaf o lk).2 = y.ops.size ∧
    (∀ j, j < y.ops.size → (y.copyLeaf o lk).1.op j = y.op j) ∧ LinksExt y (y.copyLeaf o lk).1 ∧
    (y.copyLeaf o lk).1.identKeys = y.identKeys := by
  rw [copyLeaf_eq y o lk]
  obtain ⟨c1, c2, c3, c4, c5, c6⟩ := cinv_copyLink hc (y.op o).link lk
  have hsz : (y.copyLink (y.op o).link lk).1.ops.size = y.ops.size := by rw [c2]
  refine ⟨cinv_newOp c1 _ (by show (y.copyLink (y.op o).link lk).2 < _; rw [c3, c4]; omega), ?_, ?_, ?_, c5, c6⟩
  · show ((y.copyLink (y.op o).link lk).1.ops.push _).size = _
    rw [Array.size_push, hsz]
  · show (y.copyLink (y.op o).link lk).1.ops.size = _
    exact hsz
  · intro j hj
    rw [World.op_newOp, hsz]
    have : j ≠ y.ops.size := by omega
    simp only [this, if_false]
    exact World.op_of_ops_eq c2 j

theorem addW_links_size (k : Option (Nat × Bool × Link)) (G : List Entry) (c o : Nat) (y : World) :
    y.links.size ≤ (addW k G c o y).links.size := modW_links_size k o y

theorem cinv_addW {y : World} (hc : CInv y) (k : Option (Nat × Bool × Link)) (G : List Entry) (c o : Nat)
    (hk : ∀ a b L, k = some (a, b, L) → L.multi = false) : CInv (addW k G c o y) := by
  refine ⟨?_, ?_⟩
  · intro l
    show ((modW k o y).lnk l).multi = false
    cases k with
    | none => exact hc.single l
    | some k =>
      obtain ⟨a, b, L⟩ := k
      rw [modW_lnk_some]
      split
      · exact hk a b L rfl
      · exact hc.single l
  · have hm : ∀ i, ((modW k o y).op i).link < (modW k o y).links.size := by
      intro i
      cases k with
      | none => exact hc.range i
      | some k =>
        obtain ⟨a, b, L⟩ := k
        rw [modW_op, modW_links_size_some]
        split
        · exact Nat.lt_succ_self _
        · exact Nat.lt_succ_of_lt (hc.range i)
    intro j
    rw [addW_op]
    split
    · exact hm c
    · exact hm j

theorem simX_add {X : Nat → Prop} {y z : World} (h : SimX X y z) (hc : CInv y) (c o : Nat) (hcX : ¬ X c)
    (hoX : ¬ X o) : SimX X (y.add c o) (z.add c o) ∧ CInv (y.add c o) ∧ (y.add c o).ops.size = y.ops.size ∧
      LinksExt y (y.add c o) ∧ (y.add c o).identKeys = y.identKeys := by
  have hopo := h.2.2.1 o hoX
  have hopc := h.2.2.1 c hcX
  rw [add_same_decision h.shape h.2.1 h.links c o hopo hopc (hc.single _), add_eq y c o]
  generalize hdec : addDec (y.hasRel o) (y.leafAtAny (y.op c).graph (y.chansOf o)) (y.refOf (y.op o).link)
    (y.op c).graph = dec
  have hk : ∀ a b L, dec.1 = some (a, b, L) → L.multi = false := by
    intro a b L hL
    rw [← hdec] at hL
    exact addDec_single _ _ _ _ a b L hL
  show SimX X (addW dec.1 (attach (y.op c).graph dec.2 o) c o y) (addW dec.1 (attach (y.op c).graph dec.2 o) c o z) ∧
    CInv (addW dec.1 (attach (y.op c).graph dec.2 o) c o y) ∧
    (addW dec.1 (attach (y.op c).graph dec.2 o) c o y).ops.size = y.ops.size ∧
    LinksExt y (addW dec.1 (attach (y.op c).graph dec.2 o) c o y) ∧
    (addW dec.1 (attach (y.op c).graph dec.2 o) c o y).identKeys = y.identKeys
  refine ⟨⟨addW_opsOnly _ _ c o h.1, by rw [addW_size, addW_size, h.2.1], ?_, ?_⟩, cinv_addW hc _ _ c o hk,
    addW_size _ _ c o y, ⟨addW_links_size _ _ c o y, fun l hl => addW_lnk _ _ c o y l hl⟩, modW_identKeys _ o y⟩
  · intro j hj
    exact addW_op_congr _ _ c o h.2.1 (by rw [h.links]) j hopo hopc (h.2.2.1 j hj)
  · intro j
    exact (addW_shape _ _ c o h.shape h.2.1).2 j

/-- `cpStep` counts a collision when the key of the copied object is in the lookup already. -/
def collide (b : Bool) (y : World) : World := if b then { y with collisions := y.collisions + 1 } else y

/-- the collision counter is read by nothing the analysis looks at. -/
theorem collide_spec {X : Nat → Prop} {y z : World} (b : Bool) (h : SimX X y z) (hc : CInv y) :
    SimX X (collide b y) (collide b z) ∧ CInv (collide b y) ∧ (∀ j, (collide b y).op j = y.op j) ∧
    (collide b y).ops.size = y.ops.size ∧ (collide b y).links = y.links ∧
    (collide b y).identKeys = y.identKeys := by
  cases b
  · exact ⟨h, hc, fun _ => rfl, rfl, rfl, rfl⟩
  · refine ⟨⟨?_, h.2.1, h.2.2.1, h.2.2.2⟩, ⟨hc.single, hc.range⟩, fun _ => rfl, rfl, rfl, rfl⟩
    obtain ⟨O, rfl⟩ := opsOnly_exists h.1
    rfl

/-- what the locality lemma states about one call of `copyObj`: same identifier and lookup in both heaps, the two
    results are again equal up to the links of `X`; the copy is the first new object; no old object and no old link is
    written. -/
def CopyLocal (X : Nat → Prop) (g o : Nat) (lk : Lookup) (y z : World) : Prop :=
  (z.copyObj g o lk).2 = (y.copyObj g o lk).2 ∧ SimX X (y.copyObj g o lk).1 (z.copyObj g o lk).1 ∧
  CInv (y.copyObj g o lk).1 ∧ y.ops.size ≤ (y.copyObj g o lk).1.ops.size ∧
  (∀ j, j < y.ops.size → (y.copyObj g o lk).1.op j = y.op j) ∧
  (y.copyObj g o lk).2.1 = y.ops.size ∧ LinksExt y (y.copyObj g o lk).1 ∧
  (y.copyObj g o lk).1.identKeys = y.identKeys

def Outside (X : Nat → Prop) (y : World) (f o : Nat) : Prop := ∀ j ∈ y.below f o, ¬ X j ∧ KeyFree X y j

theorem cpFold_local (X : Nat → Prop) (n0 : Nat) (hXb : ∀ j, X j → j < n0) (f g res : Nat)
    (ih : ∀ (o : Nat) (lk : Lookup) (y z : World), SimX X y z → CInv y → n0 ≤ y.ops.size → TreeBelow y f o →
      Outside X y f o → CopyLocal X g o lk y z)
    (yb : World) (hrb : ∀ j, (yb.op j).link < yb.links.size) (hres : yb.ops.size ≤ res) (hresX : ¬ X res) :
    ∀ (L : List Nat) (lk : Lookup) (y z : World), SimX X y z → CInv y → n0 ≤ y.ops.size → yb.ops.size ≤ y.ops.size →
      (∀ j, j < yb.ops.size → y.op j = yb.op j) → LinksExt yb y → y.identKeys = yb.identKeys →
      (∀ n ∈ L, TreeBelow yb f n ∧ Outside X yb f n) →
      (L.foldl (cpStep g res) (z, lk)).2 = (L.foldl (cpStep g res) (y, lk)).2 ∧
      SimX X (L.foldl (cpStep g res) (y, lk)).1 (L.foldl (cpStep g res) (z, lk)).1 ∧
      CInv (L.foldl (cpStep g res) (y, lk)).1 ∧ y.ops.size ≤ (L.foldl (cpStep g res) (y, lk)).1.ops.size ∧
      (∀ j, j < yb.ops.size → (L.foldl (cpStep g res) (y, lk)).1.op j = yb.op j) ∧
      LinksExt y (L.foldl (cpStep g res) (y, lk)).1 ∧
      (L.foldl (cpStep g res) (y, lk)).1.identKeys = y.identKeys := by
  intro L
  induction L with
  | nil => intro lk y z h hc _ _ hfr _ _ _; exact ⟨rfl, h, hc, Nat.le_refl _, hfr, LinksExt.refl y, rfl⟩
  | cons n ns ihL =>
    intro lk y z h hc hn0 hs0 hfr hle hid hL
    simp only [List.foldl_cons]
    obtain ⟨htb, hob⟩ := hL n List.mem_cons_self
    -- the tree below `n` is the same in the current heap
    have hsame : ∀ j ∈ yb.below f n, (y.op j).noLink = (yb.op j).noLink := fun j hj =>
      op_eq_noLink (hfr j (below_lt yb f n htb j hj))
    have hty : TreeBelow y f n := tree_congr yb y hs0 f n htb hsame
    have hby : y.below f n = yb.below f n := below_congr yb y f n hsame
    have hoy : Outside X y f n := by
      intro j hj
      rw [hby] at hj
      obtain ⟨h1, h2⟩ := hob j hj
      refine ⟨h1, ?_⟩
      have hopj : y.op j = yb.op j := hfr j (below_lt yb f n htb j hj)
      rcases h2 with hi | ⟨k1, k2⟩
      · exact Or.inl (by rw [hid]; exact hi)
      · refine Or.inr ⟨?_, by rw [hopj]; exact k2⟩
        intro r hr
        rw [hopj, hle.2 _ (hrb j)] at hr
        exact k1 r hr
    obtain ⟨r1, r2, r3, r4, r5, r6, r7, r8⟩ := ih n lk y z h hc hn0 hty hoy
    have hnX : ¬ X n := (hoy n hty.self_mem).1
    have hkz : z.eqKey n = y.eqKey n := World.eqKey_congr h.ident (h.2.2.1 n hnX)
    have hcpX : ¬ X (y.copyObj g n lk).2.1 := by
      rw [r6]; intro hx; have := hXb _ hx; omega
    have hsy : cpStep g res (y, lk) n =
        ((collide ((y.copyObj g n lk).2.2.any (fun p => p.1 == y.eqKey n)) (y.copyObj g n lk).1).add res
          (y.copyObj g n lk).2.1, (y.copyObj g n lk).2.2.set (y.eqKey n) (y.copyObj g n lk).2.1) := rfl
    have hsz : cpStep g res (z, lk) n =
        ((collide ((y.copyObj g n lk).2.2.any (fun p => p.1 == y.eqKey n)) (z.copyObj g n lk).1).add res
          (y.copyObj g n lk).2.1, (y.copyObj g n lk).2.2.set (y.eqKey n) (y.copyObj g n lk).2.1) := by
      unfold cpStep; simp only [hkz, r1]; rfl
    rw [hsy, hsz]
    generalize (y.copyObj g n lk).2.2.any (fun p => p.1 == y.eqKey n) = b
    generalize (y.copyObj g n lk).2.2.set (y.eqKey n) (y.copyObj g n lk).2.1 = lk'
    obtain ⟨b1, b2, b3, b4, b5, b6⟩ := collide_spec b r2 r3
    obtain ⟨a1, a2, a3, a5, a6⟩ := simX_add b1 b2 res (y.copyObj g n lk).2.1 hresX hcpX
    have hsize : y.ops.size ≤ ((collide b (y.copyObj g n lk).1).add res (y.copyObj g n lk).2.1).ops.size := by
      rw [a3, b4]; exact r4
    have hfr' : ∀ j, j < yb.ops.size →
        ((collide b (y.copyObj g n lk).1).add res (y.copyObj g n lk).2.1).op j = yb.op j := by
      intro j hj
      rw [add_op_other _ _ _ j (by omega) (by rw [r6]; omega), b3 j, r5 j (Nat.lt_of_lt_of_le hj hs0)]
      exact hfr j hj
    have hle' : LinksExt y ((collide b (y.copyObj g n lk).1).add res (y.copyObj g n lk).2.1) :=
      r7.trans ((LinksExt.of_eq b5).trans a5)
    obtain ⟨f1, f2, f3, f4, f5, f6, f7⟩ := ihL lk' _ _ a1 a2
      (Nat.le_trans hn0 hsize) (Nat.le_trans hs0 hsize) hfr' (hle.trans hle') (by rw [a6, b6, r8, hid])
      (fun m hm => hL m (List.mem_cons_of_mem _ hm))
    exact ⟨f1, f2, f3, Nat.le_trans hsize f4, f5, hle'.trans f6, by rw [f7, a6, b6, r8]⟩

/-- **locality of the copy**: without group links, `copyObj` of a tree whose objects are outside `X` and whose keys are
    stable gives, on two heaps that differ in the links of the objects of `X` only, the same new objects and links, the
    same identifier and the same lookup; it writes to no old object. -/
theorem copyObj_local (X : Nat → Prop) (n0 : Nat) (hXb : ∀ j, X j → j < n0) :
    ∀ (f g o : Nat) (lk : Lookup) (y z : World), f ≤ g → SimX X y z → CInv y → n0 ≤ y.ops.size → TreeBelow y f o →
      Outside X y f o → CopyLocal X g o lk y z := by
  intro f
  induction f with
  | zero => intro g o lk y z _ _ _ _ ht; exact ht.elim
  | succ f ih =>
    intro g o lk y z hfg h hc hn0 ht hout
    cases g with
    | zero => omega
    | succ g =>
      have hoX : ¬ X o := (hout o ht.self_mem).1
      have hopo : z.op o = y.op o := h.2.2.1 o hoX
      have hnew : ∀ j, y.ops.size ≤ j → ¬ X j := fun j hj hx => by have := hXb j hx; omega
      unfold CopyLocal
      by_cases hcomp : (y.op o).isComp = true
      ·
        rw [copyObj_comp' y g o lk hcomp, copyObj_comp' z g o lk (by rw [hopo]; exact hcomp), hopo]
        obtain ⟨l1, l2⟩ := simX_copyLink h hc (y.op o).link lk (fun r hr => (hout o ht.self_mem).2.link h r hr)
        obtain ⟨c1, c2, c3, c4, c5, c6⟩ := cinv_copyLink hc (y.op o).link lk
        have hsz1 : (y.copyLink (y.op o).link lk).1.ops.size = y.ops.size := by rw [c2]
        have hsz1z : (z.copyLink (y.op o).link lk).1.ops.size = y.ops.size := by rw [l1.2.1, hsz1]
        rw [l2, hsz1, hsz1z]
        obtain ⟨n1, _⟩ := simX_newOp l1 { cls := .comp, link := (y.copyLink (y.op o).link lk).2, rep := (y.op o).rep }
        have hc2 := cinv_newOp c1 { cls := .comp, link := (y.copyLink (y.op o).link lk).2, rep := (y.op o).rep }
          (by show (y.copyLink (y.op o).link lk).2 < _; rw [c3, c4]; omega)
        have hsz2 : ((y.copyLink (y.op o).link lk).1.newOp
            { cls := .comp, link := (y.copyLink (y.op o).link lk).2, rep := (y.op o).rep }).1.ops.size =
            y.ops.size + 1 := by
          show ((y.copyLink (y.op o).link lk).1.ops.push _).size = _
          rw [Array.size_push, hsz1]
        have hfr2 : ∀ j, j < y.ops.size → ((y.copyLink (y.op o).link lk).1.newOp
            { cls := .comp, link := (y.copyLink (y.op o).link lk).2, rep := (y.op o).rep }).1.op j = y.op j := by
          intro j hj
          rw [World.op_newOp, hsz1]
          have : j ≠ y.ops.size := by omega
          simp only [this, if_false]
          exact World.op_of_ops_eq c2 j
        have hL : ∀ n ∈ listing (y.op o).graph, TreeBelow y f n ∧ Outside X y f n := by
          intro n hn
          have hk := (mem_listing_kids y o n).mp hn
          refine ⟨ht.kid hcomp hk, fun j hj => hout j (below_kid y f o n j hcomp hk hj)⟩
        have hle2 : LinksExt y ((y.copyLink (y.op o).link lk).1.newOp
            { cls := .comp, link := (y.copyLink (y.op o).link lk).2, rep := (y.op o).rep }).1 := c5
        obtain ⟨f1, f2, f3, f4, f5, f6, f7⟩ := cpFold_local X n0 hXb f g y.ops.size
          (fun o' lk' y' z' h' hc' hn' ht' ho' => ih g o' lk' y' z' (by omega) h' hc' hn' ht' ho') y hc.range
          (Nat.le_refl _) (hnew _ (Nat.le_refl _)) (listing (y.op o).graph) lk _ _ n1 hc2 (by rw [hsz2]; omega)
          (by rw [hsz2]; omega) hfr2 hle2 c6 hL
        have hsize := f4
        rw [hsz2] at hsize
        refine ⟨?_, f2, f3, Nat.le_trans (Nat.le_succ _) hsize, f5, rfl, hle2.trans f6, by rw [f7]; exact c6⟩
        rw [f1]
      ·
        have hleaf : (y.op o).isComp = false := by simpa using hcomp
        rw [copyObj_leaf y g o lk hleaf, copyObj_leaf z g o lk (by rw [hopo]; exact hleaf)]
        obtain ⟨s1, s2⟩ := simX_copyLeaf h hc o hoX lk (hout o ht.self_mem).2
        obtain ⟨c1, c2, c3, c4, c5, c6⟩ := cinv_copyLeaf hc o lk
        exact ⟨by rw [s2], s1, c1, by rw [c2]; omega, c4, c3, c5, c6⟩

/-- the hypotheses of the commutation theorem for `add_sub_circuit`: `c` and `sub` are separate trees within the fuel of
    the driver, the relation tree of `c` was built by `attach`, the heap has no group link and all link ids in range
    (`CInv`), and the keys the copy reads for the objects below `sub` (of the reference of each link, of the registry of
    each measurement) are identities or keys of objects that are not below `c` (`KeyFree`). -/
structure SubOk (w : World) (f f' c sub : Nat) : Prop where
  tree : TreeBelow w f c
  fuel : f ≤ w.depthFuel
  comp : (w.op c).isComp = true
  stree : TreeBelow w f' sub
  sfuel : f' ≤ w.depthFuel
  apart : ∀ j ∈ w.below f' sub, j ∉ w.below f c
  inv : CInv w
  built : Built (w.op c).graph
  keys : ∀ j ∈ w.below f' sub, KeyFree (fun r => r ∈ w.below f c) w j

/-- **listing `c` before `c.add_sub_circuit(sub)` leaves no trace** (no group links, `sub` a separate tree that does not
    refer into the tree of `c`): the same copy is made, and after the next listing of `c` the heaps and the sequences
    agree. -/
theorem listing_then_addSub (w : World) (f f' c sub : Nat) (H : SubOk w f f' c sub) :
    ((w.operations c).1.addSub c sub).2 = (w.addSub c sub).2 ∧
    ((w.operations c).1.addSub c sub).1.operations c = (w.addSub c sub).1.operations c := by
  obtain ⟨ht, hfuel, hcomp, hst, hsfuel, hapart, hinv, hbuilt, hkeys⟩ := H
  have hc : c < w.ops.size := ht.lt
  have hs1 : Shape (w.operations c).1 w := operations_shape w c
  have hsz1 : (w.operations c).1.ops.size = w.ops.size := operations_ops_size w c
  have hO1 : OpsOnly w (w.operations c).1 := decomposed_opsOnly _ c w
  have hdec : (w.operations c).1 = (w.decomposed ((w.ops.size + 1) + 1) c).1 := rfl
  have hfu1 : (w.operations c).1.depthFuel = w.depthFuel := by unfold World.depthFuel; rw [hsz1]
  -- the region `X` the listing writes to
  have hXbelow : ∀ j, j ∈ reach w ((w.ops.size + 1) + 1) c → j ∈ w.below f c := fun j hj =>
    reach_sub_below w f _ c ht hfuel hcomp hj
  have hXb : ∀ j, j ∈ reach w ((w.ops.size + 1) + 1) c → j < w.ops.size := fun j hj =>
    below_lt w f c ht j (hXbelow j hj)
  have hsim : SimX (fun j => j ∈ reach w ((w.ops.size + 1) + 1) c) w (w.operations c).1 :=
    ⟨hO1, hsz1, fun j hj => by rw [hdec]; exact decomposed_frame _ c w j hj, hs1.2⟩
  -- the copied tree avoids `X`
  have hout : Outside (fun j => j ∈ reach w ((w.ops.size + 1) + 1) c) w f' sub := fun j hj =>
    ⟨fun hx => hapart j hj (hXbelow j hx), (hkeys j hj).mono hXbelow⟩
  have hsubX : sub ∉ reach w ((w.ops.size + 1) + 1) c := (hout sub hst.self_mem).1
  have hkey : (w.operations c).1.eqKey sub = w.eqKey sub := World.eqKey_congr hsim.ident (hsim.2.2.1 sub hsubX)
  obtain ⟨l1, l2, l3, _, _, _, l7, _⟩ := copyObj_local (fun j => j ∈ reach w ((w.ops.size + 1) + 1) c) w.ops.size hXb
    f' w.depthFuel sub [(w.eqKey sub, c)] w (w.operations c).1 hsfuel hsim hinv (Nat.le_refl _) hst hout
  have hcp := copyObj_tree f' w sub [(w.eqKey sub, c)] w.depthFuel hst hsfuel
  have hcp1 := copyObj_tree f' (w.operations c).1 sub [(w.eqKey sub, c)] w.depthFuel
    (tree_congr w _ (by rw [hsz1]; exact Nat.le_refl _) f' sub hst (fun j _ => hs1.2 j)) hsfuel
  rw [addSub_eq, addSub_eq, hfu1, hkey]
  show ((w.operations c).1.copyObj w.depthFuel sub [(w.eqKey sub, c)]).2.1 =
      (w.copyObj w.depthFuel sub [(w.eqKey sub, c)]).2.1 ∧
    (((w.operations c).1.copyObj w.depthFuel sub [(w.eqKey sub, c)]).1.add c
      ((w.operations c).1.copyObj w.depthFuel sub [(w.eqKey sub, c)]).2.1).operations c =
    ((w.copyObj w.depthFuel sub [(w.eqKey sub, c)]).1.add c
      (w.copyObj w.depthFuel sub [(w.eqKey sub, c)]).2.1).operations c
  generalize w.copyObj w.depthFuel sub [(w.eqKey sub, c)] = R at l1 l2 l3 l7 hcp
  generalize (w.operations c).1.copyObj w.depthFuel sub [(w.eqKey sub, c)] = R1 at l1 l2 hcp1
  have hcpeq : R1.2.1 = R.2.1 := congrArg Prod.fst l1
  refine ⟨hcpeq, ?_⟩
  rw [hcpeq]
  -- the tree below `c` is untouched by the copy
  have hsame : ∀ j ∈ w.below f c, (R.1.op j).noLink = (w.op j).noLink := fun j hj =>
    op_eq_noLink (hcp.old j (below_lt w f c ht j hj))
  have htR : TreeBelow R.1 f c := tree_congr w R.1 (Nat.le_of_lt hcp.size) f c ht hsame
  have hbR : R.1.below f c = w.below f c := below_congr w R.1 f c hsame
  have hopcR : R.1.op c = w.op c := hcp.old c hc
  have hcompR : (R.1.op c).isComp = true := by rw [hopcR]; exact hcomp
  have hfuelR : f ≤ R.1.depthFuel := by
    unfold World.depthFuel at hfuel ⊢
    have := hcp.size
    omega
  -- the copy made in the listed heap is the listed copy
  have hW : R1.1 = (R.1.operations c).1 := by
    have e1 : OpsOnly R.1 R1.1 := l2.1
    have e2 : OpsOnly R.1 (R.1.operations c).1 := decomposed_opsOnly _ c R.1
    have hops : R1.1.ops = (R.1.operations c).1.ops := by
      apply ops_ext (by rw [l2.2.1, operations_ops_size])
      intro j
      -- the listing of `c` in `R.1`, with the fuel of `w`
      have hfu : R.1.operations c = R.1.decomposed ((w.ops.size + 1) + 1) c :=
        decomposed_fuel f _ _ c R.1 htR hcompR hfuelR hfuel
      rw [hfu]
      by_cases hj : j ∈ reach w ((w.ops.size + 1) + 1) c
      · have hjlt : j < w.ops.size := hXb j hj
        have hext := decomposed_ext w R.1 ((w.ops.size + 1) + 1) c l7 hinv.range
          (fun i hi => by
            have hi' : i < w.ops.size := by
              rcases List.mem_cons.mp hi with rfl | hi
              · exact hc
              · exact hXb i hi
            exact ⟨hcp.old i hi', hi', Nat.lt_trans hi' hcp.size⟩)
          j (List.mem_cons_of_mem _ hj)
        rw [hext, ← hdec]
        exact hcp1.old j (by rw [hsz1]; exact hjlt)
      · rw [l2.2.2.1 j hj]
        refine (decomposed_frame _ c R.1 j ?_).symm
        -- `reach` in `R.1` is `reach` in `w`
        rw [reach_congr w R.1 _ c (hsame c ht.self_mem) (fun i hi => hsame i (hXbelow i hi))]
        exact hj
    unfold OpsOnly at e1 e2
    rw [e1, e2, hops]
  rw [hW]
  -- the commutation theorem for `add`, in the heap after the copy
  apply listing_then_add R.1 f c R.2.1
  refine AddOk.of_tree htR hfuelR hcompR hcp.tree ?_ ?_ l3.range (by rw [hopcR]; exact hbuilt) (l3.single _)
  · unfold World.depthFuel at hsfuel ⊢
    have := hcp.size
    omega
  · intro j hj hjc
    rw [hbR] at hjc
    have h1 := hcp.fresh j hj
    have h2 := below_lt w f c ht j hjc
    omega

end Qco.Commute
