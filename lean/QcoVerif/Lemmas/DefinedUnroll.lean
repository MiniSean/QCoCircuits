import QcoVerif.Lemmas.DefinedUnrollExtend
import QcoVerif.Lemmas.TreeDepth
/-
  C01, definedness after unrolling: `World.applyModifiers` keeps the acyclicity certificate.

  The side condition is `RepeatedSingle w f c`: no group link strictly below a composite that is repeated (count other than
  1; with count 1 the repetition loop is empty and `applyModifiers` only makes the pristine copy).  It holds when there is
  no group link strictly below `c` at all (`SingleUnder`: every heap built with `new / op / sub / copy`), and when all
  counts are `fixed 1` (`AllOnes`: what `applyModifiers` leaves behind, group links included) — so the certificate
  survives unrolling, and unrolling again.  The invariant `RepInvD` of the repetition loop runs next to `RepInvT`
  (Lemmas/UnrollNested.lean); the example heap `exG` of Lemmas/TreeBuild.lean, built with the API, is certified.
-/
namespace Qco.DefinedUnroll

open Qco Qco.Defined

/-- no group link strictly below a composite (at or below `o`) that is repeated. -/
def RepeatedSingle (w : World) : Nat → Nat → Prop
  | 0, _ => True
  | f+1, o => (w.op o).isComp = true →
      (w.repCount (w.op o).rep - 1 = 0 ∨ SingleUnder w (f + 1) o) ∧ ∀ n ∈ w.kids o, RepeatedSingle w f n

theorem repeatedSingle_of_singleUnder (w : World) : ∀ (f o : Nat), TreeBelow w f o → SingleUnder w f o →
    RepeatedSingle w f o := by
  intro f
  induction f with
  | zero => intro o h; exact h.elim
  | succ f ih =>
    intro o ht hs hc
    exact ⟨Or.inr hs, fun n hn => ih n (ht.kid hc hn) (singleUnder_kid ht hc hs hn).2⟩

theorem repeatedSingle_of_allOnes (w : World) : ∀ (f o : Nat), AllOnes w f o → RepeatedSingle w f o := by
  intro f
  induction f with
  | zero => intro o _; trivial
  | succ f ih =>
    intro o ha hc
    obtain ⟨hrep, hk⟩ := ha hc
    exact ⟨Or.inl (by rw [hrep]; rfl), fun n hn => ih n (hk n hn)⟩

theorem repeatedSingle_frame {w w' : World} (hc : Closed w) (hl : LinksExt w w') (hr : w'.rreg = w.rreg) :
    ∀ (f o : Nat), TreeBelow w f o → (∀ j ∈ w.below f o, w'.op j = w.op j) → RepeatedSingle w f o →
    RepeatedSingle w' f o := by
  intro f
  induction f with
  | zero => intro o h; exact h.elim
  | succ f ih =>
    intro o ht hop hrs hc'
    have ho : w'.op o = w.op o := hop o (self_mem_below w f o)
    rw [ho] at hc'
    obtain ⟨h1, h2⟩ := hrs hc'
    have hk : w'.kids o = w.kids o := by unfold World.kids; rw [ho]
    have hcnt : w'.repCount (w.op o).rep = w.repCount (w.op o).rep := by unfold World.repCount; rw [hr]
    rw [ho, hk, hcnt]
    exact ⟨h1.imp id (singleUnder_frame hc hl hop),
      fun n hn => ih n (ht.kid hc' hn) (fun j hj => hop j (below_kid w f o n j hc' hn hj)) (h2 n hn)⟩

structure RepInvD (w0 : World) (c f : Nat) (w : World) : Prop where
  closed : Closed w
  acyclic : Acyclic w
  links : LinksExt w0 w
  kidsS : ∀ n ∈ w.kids c, SingleUnder w f n
  origS : SingleUnder w (f + 1) w0.ops.size

theorem repInvD_base (w : World) (f c : Nat) (ht : TreeBelow w (f + 1) c) (hcomp : (w.op c).isComp = true)
    (hf : f + 1 ≤ w.depthFuel) (hc : Closed w) (ha : Acyclic w) (hsu : SingleUnder w (f + 1) c) :
    RepInvD w c f (w.copy c).1 := by
  have hcs := copy_tree w (f + 1) c ht hf
  obtain ⟨c2, a2, _⟩ := copy_certified hc ha c ht.lt
  obtain ⟨_, hnest⟩ := copy_fresh ht hf hc ha hsu
  have hle := copy_linksExt hc ha c ht.lt
  have hid := hcs.id
  rw [hid] at hcs hnest
  refine ⟨c2, a2, hle, ?_, nested_single hcs.tree hnest⟩
  intro n hn
  have hk : (w.copy c).1.kids c = w.kids c := by unfold World.kids; rw [hcs.old c ht.lt]
  rw [hk] at hn
  exact singleUnder_frame hc hle (fun j hj => hcs.old j (below_lt w f n (ht.kid hcomp hn) j hj))
    (singleUnder_kid ht hcomp hsu hn).2

theorem repInvD_step (w0 : World) (c f : Nat) (hc : c < w0.ops.size) (w : World) (i : Nat)
    (hT : RepInvT w0 c f w i) (hD : RepInvD w0 c f w) (hf : f + 1 ≤ w.depthFuel) :
    RepInvD w0 c f ((w.copy w0.ops.size).1.extend c (w.copy w0.ops.size).2) := by
  have hcw : c < w.ops.size := Nat.lt_trans hc hT.size
  have hcs := copy_tree w (f + 1) w0.ops.size hT.otree hf
  obtain ⟨c2, _, _⟩ := copy_certified hD.closed hD.acyclic w0.ops.size hT.otree.lt
  obtain ⟨_, hnest⟩ := copy_fresh hT.otree hf hD.closed hD.acyclic hD.origS
  obtain ⟨c', a', l1, l2⟩ := copy_extend_certified hD.closed hD.acyclic hcw hT.ccomp hT.otree hT.ocomp hf hD.origS
  have hid := hcs.id
  rw [hid] at hcs hnest c' a' l1 l2 ⊢
  generalize (w.copy w0.ops.size).1 = w2 at hcs c2 hnest c' a' l1 l2 ⊢
  have hc2 : c < w2.ops.size := Nat.lt_trans hcw hcs.size
  have hcpc : (w2.op w.ops.size).isComp = true := by rw [hcs.kind]; exact hT.ocomp
  have hp : (listing (w2.op w.ops.size).graph).Perm (w2.kids w.ops.size) := listing_perm _
  have hk2 : w2.kids c = w.kids c := by unfold World.kids; rw [hcs.old c hcw]
  have hkids : (w2.extend c w.ops.size).kids c = w.kids c ++ listing (w2.op w.ops.size).graph := by
    rw [extend_kids w2 c w.ops.size hc2, hk2]
  have hNfresh : ∀ m ∈ listing (w2.op w.ops.size).graph, w.ops.size ≤ m := by
    intro m hm
    have hk := hp.mem_iff.mp hm
    exact hcs.fresh m (below_kid w2 f _ m m hcpc hk (hcs.tree.kid hcpc hk).self_mem)
  have hold : ∀ j, j < w.ops.size → j ≠ c → (w2.extend c w.ops.size).op j = w.op j := by
    intro j hj hjc
    rw [extend_op_other w2 c w.ops.size j hjc (fun hm => by have := hNfresh j hm; omega), hcs.old j hj]
  refine ⟨c', a', LinksExt.trans hD.links l1, ?_, ?_⟩
  · intro n hn
    rw [hkids] at hn
    rcases List.mem_append.mp hn with hn | hn
    · exact singleUnder_frame hD.closed l1 (fun j hj =>
        hold j (below_lt w f n (hT.cforest.tree n hn) j hj) (hT.csub n hn j hj).1) (hD.kidsS n hn)
    · -- a node of the copy: `extend` rewrites its link, everything strictly below it is as in the copy
      have hk := hp.mem_iff.mp hn
      have tn : TreeBelow w2 f n := hcs.tree.kid hcpc hk
      have hfr : ∀ j ∈ w2.below f n, j ≠ c := by
        intro j hj
        have := hcs.fresh j (below_kid w2 f _ n j hcpc hk hj)
        omega
      apply singleUnder_congr _ _ (nested_single tn (hnest hcpc n hk).2.2)
      · intro j hj
        exact (extend_spec w2 c w.ops.size hc2).2.2.2.2.2 j (hfr j hj)
      · intro j hj hjn
        have hnot : j ∉ listing (w2.op w.ops.size).graph := by
          intro hm
          have hkj := hp.mem_iff.mp hm
          exact hcs.tree.disj hcpc hkj hk hjn j (hcs.tree.kid hcpc hkj).self_mem hj
        exact lnk_frame c2 l2 (extend_op_other w2 c w.ops.size j (hfr j hj) hnot)
  · refine singleUnder_frame hD.closed l1 (fun j hj => hold j (below_lt w (f + 1) _ hT.otree j hj) ?_) hD.origS
    have := hT.ofresh j hj
    omega

/-! ### resetting the count changes no dependency -/

theorem setRep_op (w : World) (c : Nat) (r : Rep) (j : Nat) :
    ((w.setOp c { w.op c with rep := r }).op j).link = (w.op j).link ∧
    ((w.setOp c { w.op c with rep := r }).op j).graph = (w.op j).graph ∧
    ((w.setOp c { w.op c with rep := r }).op j).isComp = (w.op j).isComp := by
  rw [World.op_setOp]
  split
  · rename_i h
    rw [← h.1]
    exact ⟨rfl, rfl, rfl⟩
  · exact ⟨rfl, rfl, rfl⟩

theorem setRep_certified {w : World} (c : Nat) (r : Rep) (hc : Closed w) (ha : Acyclic w) :
    Closed (w.setOp c { w.op c with rep := r }) ∧ Acyclic (w.setOp c { w.op c with rep := r }) := by
  have hl : ∀ l, (w.setOp c { w.op c with rep := r }).lnk l = w.lnk l := fun l => rfl
  have hsz : (w.setOp c { w.op c with rep := r }).ops.size = w.ops.size := w.ops_size_setOp _ _
  have hls : (w.setOp c { w.op c with rep := r }).links.size = w.links.size := rfl
  obtain ⟨rk, hrk⟩ := ha
  refine ⟨⟨fun o x hx => ?_, fun o e he => ?_, fun o => ?_⟩, ⟨rk, ⟨fun o x hx => ?_, fun o hco e he => ?_⟩⟩⟩
  · rw [(setRep_op w c r o).1, hl] at hx; rw [hsz]; exact hc.ref o x hx
  · rw [(setRep_op w c r o).2.1] at he; rw [hsz]; exact hc.node o e he
  · rw [(setRep_op w c r o).1, hls]; exact hc.link o
  · rw [(setRep_op w c r o).1, hl] at hx; exact hrk.ref o x hx
  · rw [(setRep_op w c r o).2.2] at hco
    rw [(setRep_op w c r o).2.1] at he
    exact hrk.node o hco e he

theorem unrollTop_certified (w : World) (f c : Nat) (ht : TreeBelow w (f + 1) c) (hcomp : (w.op c).isComp = true)
    (hf : f + 1 ≤ w.depthFuel) (hc : Closed w) (ha : Acyclic w) (hrs : RepeatedSingle w (f + 1) c) :
    Closed (unrollTop w c) ∧ Acyclic (unrollTop w c) ∧ LinksExt w (unrollTop w c) ∧
    ∀ n ∈ (unrollTop w c).kids c, RepeatedSingle (unrollTop w c) f n := by
  obtain ⟨hid, baseT⟩ := repInvT_base w f c ht hcomp hf
  obtain ⟨hcount, hkids⟩ := hrs hcomp
  unfold unrollTop
  rw [hid]
  generalize hw3 : repLoop c w.ops.size (w.repCount (w.op c).rep - 1) (w.copy c).1 = w3
  have mid : (∃ i, RepInvT w c f w3 i) ∧ Closed w3 ∧ Acyclic w3 ∧ LinksExt w w3 ∧
      ∀ n ∈ w3.kids c, RepeatedSingle w3 f n := by
    rcases hcount with h0 | hsu
    · -- not repeated: the loop is empty, and nothing below `c` is written by the copy
      have e : w3 = (w.copy c).1 := by rw [← hw3, h0]; rfl
      rw [e]
      obtain ⟨c2, a2, _⟩ := copy_certified hc ha c ht.lt
      have hle := copy_linksExt hc ha c ht.lt
      have hcs := copy_tree w (f + 1) c ht hf
      refine ⟨⟨0, baseT⟩, c2, a2, hle, fun n hn => ?_⟩
      have hk : (w.copy c).1.kids c = w.kids c := by unfold World.kids; rw [hcs.old c ht.lt]
      rw [hk] at hn
      exact repeatedSingle_frame hc hle hcs.rreg f n (ht.kid hcomp hn)
        (fun j hj => hcs.old j (below_lt w f n (ht.kid hcomp hn) j hj)) (hkids n hn)
    · -- no group link strictly below `c`: every pass appends a `Nested` copy
      rw [← hw3]
      obtain ⟨⟨i, lT⟩, lD⟩ := foldl_inv (fun w1 => (∃ i, RepInvT w c f w1 i) ∧ RepInvD w c f w1)
        (fun (w1 : World) (_ : Nat) => (w1.copy w.ops.size).1.extend c (w1.copy w.ops.size).2)
        (by
          rintro w1 _ ⟨⟨i, hT⟩, hD⟩
          have hf' : f + 1 ≤ w1.depthFuel := by
            have := hT.size
            unfold World.depthFuel at hf ⊢
            omega
          exact ⟨⟨i + 1, repInvT_step w c f ht.lt w1 i hT hf'⟩, repInvD_step w c f ht.lt w1 i hT hD hf'⟩)
        (List.range (w.repCount (w.op c).rep - 1)) (w.copy c).1
        ⟨⟨0, baseT⟩, repInvD_base w f c ht hcomp hf hc ha hsu⟩
      exact ⟨⟨i, lT⟩, lD.closed, lD.acyclic, lD.links,
        fun n hn => repeatedSingle_of_singleUnder _ f n (lT.cforest.tree n hn) (lD.kidsS n hn)⟩
  obtain ⟨⟨i, lT⟩, c3, a3, l3, s3⟩ := mid
  obtain ⟨c4, a4⟩ := setRep_certified c (.fixed 1) c3 a3
  refine ⟨c4, a4, LinksExt.trans l3 (LinksExt.of_eq rfl), fun n hn => ?_⟩
  have hk : (w3.setOp c { w3.op c with rep := .fixed 1 }).kids c = w3.kids c := by
    unfold World.kids; rw [(setRep_op w3 c (.fixed 1) c).2.1]
  rw [hk] at hn
  exact repeatedSingle_frame (w' := w3.setOp c { w3.op c with rep := .fixed 1 }) c3 (LinksExt.of_eq rfl) rfl f n
    (lT.cforest.tree n hn) (fun j hj => w3.op_setOp_of_ne _ (lT.csub n hn j hj).1) (s3 n hn)

/-- the nodes `L` of `c` one after the other: unrolling a node writes nothing below its siblings. -/
theorem kids_fold_certified (w4 : World) (f g : Nat) (K : List Nat) (hf4 : f ≤ w4.depthFuel) (hfg : f ≤ g)
    (ih : ∀ (w : World) (n : Nat), TreeBelow w f n → f ≤ w.depthFuel → Closed w → Acyclic w → RepeatedSingle w f n →
      Closed (w.applyModifiers g n) ∧ Acyclic (w.applyModifiers g n) ∧ LinksExt w (w.applyModifiers g n))
    (L : List Nat) (hK : KidsInv w4 f K w4 []) (hc : Closed w4) (ha : Acyclic w4) (hnd : L.Nodup)
    (hL : ∀ n ∈ L, n ∈ K ∧ RepeatedSingle w4 f n) :
    Closed (L.foldl (fun w n => w.applyModifiers g n) w4) ∧ Acyclic (L.foldl (fun w n => w.applyModifiers g n) w4) ∧
    LinksExt w4 (L.foldl (fun w n => w.applyModifiers g n) w4) := by
  have fin := foldl_inv_rest (fun rest w => (∃ P, KidsInv w4 f K w P) ∧ Closed w ∧ Acyclic w ∧ LinksExt w4 w ∧
      rest.Nodup ∧ ∀ n ∈ rest, n ∈ K ∧ RepeatedSingle w f n) (fun w n => w.applyModifiers g n) ?_ L w4
    ⟨⟨[], hK⟩, hc, ha, LinksExt.refl w4, hnd, hL⟩
  · exact ⟨fin.2.1, fin.2.2.1, fin.2.2.2.1⟩
  · rintro w n rest ⟨⟨P, h⟩, hc, ha, hl, hnd, hL⟩
    obtain ⟨hn, hsn⟩ := hL n List.mem_cons_self
    have hfw : f ≤ w.depthFuel := by
      have := h.size
      unfold World.depthFuel at hf4 ⊢
      omega
    have htn := h.forest.tree n hn
    obtain ⟨c', a', l'⟩ := ih w n htn hfw hc ha hsn
    have hs := applyModifiers_tree f w n g htn hfg hfw
    refine ⟨⟨P ++ [n], kidsInv_step w4 f K w P n _ h hn hs⟩, c', a', LinksExt.trans hl l',
      (List.nodup_cons.mp hnd).2, fun m hm => ?_⟩
    obtain ⟨hmK, hsm⟩ := hL m (List.mem_cons_of_mem _ hm)
    have hmn : m ≠ n := fun e => (List.nodup_cons.mp hnd).1 (e ▸ hm)
    have htm := h.forest.tree m hmK
    exact ⟨hmK, repeatedSingle_frame hc l' hs.rreg f m htm
      (fun j hj => hs.frame j (below_lt w f m htm j hj) (h.forest.disj m hmK n hn hmn j hj)) hsm⟩

/-- `applyModifiers` keeps the acyclicity certificate on a tree `c` of depth ≤ `f` without group links strictly below
    its repeated composites (fuel `g ≥ f` for the recursion, `f ≤ depthFuel` for the copies); old link objects are
    untouched. -/
theorem applyModifiers_repeatedSingle : ∀ (f : Nat) (w : World) (c g : Nat), TreeBelow w f c → f ≤ g →
    f ≤ w.depthFuel → Closed w → Acyclic w → RepeatedSingle w f c →
    Closed (w.applyModifiers g c) ∧ Acyclic (w.applyModifiers g c) ∧ LinksExt w (w.applyModifiers g c) := by
  intro f
  induction f with
  | zero => intro w c g h; exact h.elim
  | succ f ih =>
    intro w c g ht hg hf hc ha hrs
    by_cases hcomp : (w.op c).isComp = true
    · cases g with
      | zero => omega
      | succ g =>
        rw [applyModifiers_comp w g c hcomp]
        have top := unrollTop_spec w f c ht hcomp hf
        obtain ⟨c4, a4, l4, s4⟩ := unrollTop_certified w f c ht hcomp hf hc ha hrs
        generalize unrollTop w c = w4 at top c4 a4 l4 s4
        have base : KidsInv w4 f (w4.kids c) w4 [] :=
          ⟨Nat.le_refl _, rfl, fun _ _ _ => rfl, top.cforest, fun _ _ j hj => Or.inl hj,
            fun _ _ => List.Perm.refl _, fun _ h => (by cases h)⟩
        have hp : (listing (w4.op c).graph).Perm (w4.kids c) := listing_perm _
        have hf4 : f ≤ w4.depthFuel := by
          have := top.size
          unfold World.depthFuel at hf ⊢
          omega
        obtain ⟨cf, af, lf⟩ := kids_fold_certified w4 f g (w4.kids c) hf4 (by omega)
          (fun w' n h1 h2 h3 h4 h5 => ih w' n g h1 (by omega) h2 h3 h4 h5)
          (listing (w4.op c).graph) base c4 a4 (hp.nodup_iff.mpr top.cforest.nodup)
          (fun n hn => ⟨hp.mem_iff.mp hn, s4 n (hp.mem_iff.mp hn)⟩)
        exact ⟨cf, af, LinksExt.trans l4 lf⟩
    · have hl : (w.op c).isComp = false := by simpa using hcomp
      rw [applyModifiers_leaf w g c hl]
      exact ⟨hc, ha, LinksExt.refl w⟩

/-- the first unrolling: no group link strictly below `c`. -/
theorem applyModifiers_certified (f : Nat) (w : World) (c g : Nat) (ht : TreeBelow w f c) (hg : f ≤ g)
    (hf : f ≤ w.depthFuel) (hc : Closed w) (ha : Acyclic w) (hs : SingleUnder w f c) :
    Closed (w.applyModifiers g c) ∧ Acyclic (w.applyModifiers g c) ∧ LinksExt w (w.applyModifiers g c) :=
  applyModifiers_repeatedSingle f w c g ht hg hf hc ha (repeatedSingle_of_singleUnder w f c ht hs)

/-- unrolling a heap whose counts are all `fixed 1` (no condition on the links): only the pristine copies are made. -/
theorem applyModifiers_ones_certified (f : Nat) (w : World) (c g : Nat) (ht : TreeBelow w f c) (hao : AllOnes w f c)
    (hg : f ≤ g) (hf : f ≤ w.depthFuel) (hc : Closed w) (ha : Acyclic w) :
    Closed (w.applyModifiers g c) ∧ Acyclic (w.applyModifiers g c) :=
  have h := applyModifiers_repeatedSingle f w c g ht hg hf hc ha (repeatedSingle_of_allOnes w f c hao)
  ⟨h.1, h.2.1⟩

theorem applyModifiers_twice_certified {w : World} {f c : Nat} (ht : TreeBelow w f c) (hf : f ≤ w.depthFuel)
    (hc : Closed w) (ha : Acyclic w) (hs : SingleUnder w f c) (g g' : Nat) (hg : f ≤ g) (hg' : f ≤ g') :
    Closed ((w.applyModifiers g c).applyModifiers g' c) ∧ Acyclic ((w.applyModifiers g c).applyModifiers g' c) := by
  obtain ⟨c1, a1, _⟩ := applyModifiers_certified f w c g ht hg hf hc ha hs
  have us := applyModifiers_tree f w c g ht hg hf
  have hf1 : f ≤ (w.applyModifiers g c).depthFuel := by
    have := us.size
    unfold World.depthFuel at hf ⊢
    omega
  exact applyModifiers_ones_certified f _ c g' us.tree us.ones hg' hf1 c1 a1

theorem tree_within_fuel {w : World} {f o : Nat} (ht : TreeBelow w f o) :
    ∃ f', f' ≤ w.depthFuel ∧ TreeBelow w f' o ∧ w.below f' o = w.below f o := by
  obtain ⟨f0, h1, h2, t0⟩ := tree_depth_le_size w f o ht
  exact ⟨f0, by unfold World.depthFuel; omega, t0, (t0.mono_le h1).2.1.symm⟩

/-- no condition on the depth bound `f`: the recursion fuel and the fuel of the copies are the driver's `depthFuel`. -/
theorem applyModifiers_certified_driver {w : World} {f c : Nat} (ht : TreeBelow w f c) (hc : Closed w) (ha : Acyclic w)
    (hs : SingleUnder w f c) :
    Closed (w.applyModifiers w.depthFuel c) ∧ Acyclic (w.applyModifiers w.depthFuel c) ∧
    LinksExt w (w.applyModifiers w.depthFuel c) := by
  obtain ⟨f', hf', t', b'⟩ := tree_within_fuel ht
  have hs' : SingleUnder w f' c := by
    intro j hj hjc
    rw [b'] at hj
    exact hs j hj hjc
  exact applyModifiers_certified f' w c w.depthFuel t' hf' hf' hc ha hs'

/-! ### API-built heaps meet the hypotheses -/

theorem default_link : (default : Op).link = 0 := rfl

theorem closed_link0 {w : World} (hc : Closed w) : 0 < w.links.size ∧ ∀ r ∈ (w.lnk 0).refs, r < w.ops.size := by
  have h1 := hc.link w.ops.size
  have h2 := hc.ref w.ops.size
  rw [World.op_of_ge w (Nat.le_refl _)] at h1 h2
  exact ⟨h1, h2⟩

/-- `add` of a fresh leaf operation created without an explicit relation (it shares the default link `0`) keeps
    `Defined.Certified` (closed, acyclic, no group link). -/
theorem addLeaf_certified {w : World} (h : Certified w) (op : Op) (c : Nat) (hl : op.link = 0) (hg : op.graph = [])
    (hcl : c < w.ops.size) (hcomp : (w.op c).isComp = true) :
    Certified ((w.newOp op).1.add c w.ops.size) := by
  obtain ⟨hl0, hr0⟩ := closed_link0 h.closed
  exact addFresh_certified h op c (hl ▸ hl0) (hl ▸ hr0) hg hcl hcomp

theorem singleUnder_of_certified {w : World} (h : Certified w) (f o : Nat) : SingleUnder w f o :=
  fun _ _ _ => h.single _

/-- the example heap `exG` (nesting depth 2, counts 2 and 3) is certified: every build step (`newCircuit`, `add`
    of a fresh leaf, `addSub`) keeps the certificate. -/
theorem exG_certified : Certified exG.1 := by
  -- inner = DeclarativeCircuit(3); inner.add(Rx180)
  have nA := newCircuit_tree ({} : World) (.fixed 3) 1
  have certA : Certified exA.1 := newCircuit_certified certified_empty _
  have sA : exA.1.ops.size = 1 := nA.2.2.1
  have cA : (exA.1.op exA.2).isComp = true := nA.2.2.2.2.1
  have iA : exA.2 = 0 := rfl
  have certB : Certified exB := addLeaf_certified certA exX exA.2 rfl rfl (by rw [sA, iA]; omega) cA
  obtain ⟨sB, _, _, _, _⟩ := exB_facts
  -- mid = DeclarativeCircuit(2); mid.add(measure)
  have nC := newCircuit_tree exB (.fixed 2) 2
  have certC : Certified exC.1 := newCircuit_certified certB _
  have iC : exC.2 = exB.ops.size := rfl
  have sC : exC.1.ops.size = exB.ops.size + 1 := nC.2.2.1
  have cC : (exC.1.op exC.2).isComp = true := nC.2.2.2.2.1
  have certD : Certified exD := addLeaf_certified certC exM exC.2 rfl rfl (by rw [iC, sC]; omega) cC
  obtain ⟨sD, iC2, _, _, tD, cD, _, _, _, _, _⟩ := exD_facts
  -- mid.add_sub_circuit(inner)
  have certE : Certified exE.1 :=
    addSub_certified' certD exC.2 exA.2 (by rw [sD, iC2]; omega) (by rw [sD, iA]; omega) cD
  -- top = DeclarativeCircuit(); top.add_sub_circuit(mid)
  have nF := newCircuit_tree exE.1 (.fixed 1) 3
  have certF : Certified exF.1 := newCircuit_certified certE _
  have iF : exF.2 = exE.1.ops.size := rfl
  have sF : exF.1.ops.size = exE.1.ops.size + 1 := nF.2.2.1
  have cF : (exF.1.op exF.2).isComp = true := nF.2.2.2.2.1
  have hfD : 2 ≤ exD.depthFuel := by unfold World.depthFuel; omega
  have sE : exD.ops.size ≤ exE.1.ops.size := (addSub_tree exD 2 exC.2 exA.2 tD cD exD_facts.2.2.1 hfD).2.1
  exact addSub_certified' certF exF.2 exC.2 (by rw [iF, sF]; omega) (by rw [sF, iC2]; omega) cF

end Qco.DefinedUnroll
