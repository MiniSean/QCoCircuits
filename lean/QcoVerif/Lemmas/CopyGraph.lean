import QcoVerif.Lemmas.GraphBuilt
import QcoVerif.Lemmas.Heap
import QcoVerif.Lemmas.AddToGraph
/-
  The pieces of `World.copyObj`, each with its equation: the frame relation `Ext` (a copy only allocates), the transfer
  lookup, the link copy, the leaf copy, the loop body `cpStep` of a composite's copy, `copy` and `addSub`, the channel
  test of `leafAtAny`, and the position map `cpNode` (copies are allocated in the order in which the originals are
  visited).  Core Lean only.
-/
namespace Qco

/-- same duration / repetition settings (what `leafDur` and `repCount` read). -/
def SameEnv (w' w : World) : Prop :=
  w'.gRo = w.gRo ∧ w'.gMw = w.gMw ∧ w'.gFl = w.gFl ∧ w'.gRs = w.gRs ∧ w'.dreg = w.dreg ∧ w'.rreg = w.rreg

theorem SameEnv.refl (w : World) : SameEnv w w := ⟨rfl, rfl, rfl, rfl, rfl, rfl⟩

theorem SameEnv.trans {a b c : World} (h1 : SameEnv a b) (h2 : SameEnv b c) : SameEnv a c :=
  ⟨h1.1.trans h2.1, h1.2.1.trans h2.2.1, h1.2.2.1.trans h2.2.2.1, h1.2.2.2.1.trans h2.2.2.2.1,
   h1.2.2.2.2.1.trans h2.2.2.2.2.1, h1.2.2.2.2.2.trans h2.2.2.2.2.2⟩

theorem SameEnv.leafDur {w' w : World} (h : SameEnv w' w) (d : Dur) : w'.leafDur d = w.leafDur d := by
  obtain ⟨h1, h2, h3, h4, h5, _⟩ := h
  unfold World.leafDur World.gdur
  rw [h1, h2, h3, h4, h5]

theorem SameEnv.setOp (w : World) (i : Nat) (o : Op) : SameEnv (w.setOp i o) w := ⟨rfl, rfl, rfl, rfl, rfl, rfl⟩

/-- the heap `wi` extends the heap `w`: everything that existed is unchanged. -/
structure Ext (w wi : World) : Prop where
  opsz : w.ops.size ≤ wi.ops.size
  lnksz : w.links.size ≤ wi.links.size
  oldop : ∀ j, j < w.ops.size → wi.op j = w.op j
  oldlnk : ∀ l, l < w.links.size → wi.lnk l = w.lnk l
  ident : wi.identKeys = w.identKeys
  env : SameEnv wi w

theorem Ext.refl (w : World) : Ext w w := ⟨Nat.le_refl _, Nat.le_refl _, fun _ _ => rfl, fun _ _ => rfl, rfl, SameEnv.refl _⟩

theorem Ext.trans {a b c : World} (h1 : Ext a b) (h2 : Ext b c) : Ext a c :=
  ⟨Nat.le_trans h1.opsz h2.opsz, Nat.le_trans h1.lnksz h2.lnksz,
   fun j hj => (h2.oldop j (Nat.lt_of_lt_of_le hj h1.opsz)).trans (h1.oldop j hj),
   fun l hl => (h2.oldlnk l (Nat.lt_of_lt_of_le hl h1.lnksz)).trans (h1.oldlnk l hl),
   h2.ident.trans h1.ident, h2.env.trans h1.env⟩

theorem Ext.eqKey {w wi : World} (h : Ext w wi) {x : Nat} (hx : x < w.ops.size) : wi.eqKey x = w.eqKey x :=
  World.eqKey_congr h.ident (h.oldop x hx)

theorem Ext.newLink (w : World) (L : Link) : Ext w (w.newLink L).1 :=
  ⟨Nat.le_refl _, by rw [w.links_size_newLink]; exact Nat.le_succ _, fun _ _ => rfl,
   fun _ hl => w.lnk_newLink_of_lt L hl, rfl, SameEnv.refl _⟩

theorem Ext.newOp (w : World) (o : Op) : Ext w (w.newOp o).1 :=
  ⟨by rw [w.ops_size_newOp]; exact Nat.le_succ _, Nat.le_refl _, fun _ hj => w.op_newOp_of_lt o hj,
   fun _ _ => rfl, rfl, SameEnv.refl _⟩

/-- same objects, links and settings (the worlds may differ in the diagnostic counters). -/
structure SameHeap (a b : World) : Prop where
  ops : a.ops = b.ops
  links : a.links = b.links
  ident : a.identKeys = b.identKeys
  env : SameEnv a b

theorem SameHeap.ext {a b : World} (h : SameHeap a b) : Ext b a :=
  ⟨by rw [h.ops]; exact Nat.le_refl _, by rw [h.links]; exact Nat.le_refl _, fun j _ => World.op_of_ops_eq h.ops j,
   fun l _ => World.lnk_of_links_eq h.links l, h.ident, h.env⟩

theorem find_map_ne (k k' : EqKey) (v : Nat) (h : k' ≠ k) : ∀ lk : Lookup,
    ((lk.map (fun p => if p.1 == k then (p.1, v) else p)).find? (fun p => p.1 == k')).map (·.2) =
      (lk.find? (fun p => p.1 == k')).map (·.2) := by
  intro lk
  induction lk with
  | nil => rfl
  | cons p ps ih =>
    simp only [List.map_cons, List.find?_cons]
    by_cases hp : p.1 = k
    · have h1 : (p.1 == k) = true := by simpa using hp
      have h2 : (p.1 == k') = false := by rw [hp]; simpa using (Ne.symm h)
      simp only [h1, if_true, h2]
      exact ih
    · have h1 : (p.1 == k) = false := by simpa using hp
      simp only [h1, Bool.false_eq_true, if_false]
      cases p.1 == k'
      · exact ih
      · rfl

theorem lookup_get_set_ne (lk : Lookup) (k k' : EqKey) (v : Nat) (h : k' ≠ k) :
    (Lookup.set lk k v).get? k' = lk.get? k' := by
  unfold Lookup.set Lookup.get?
  have hk : (k == k') = false := by simpa using (Ne.symm h)
  split
  · exact find_map_ne k k' v h lk
  · rw [List.find?_append]
    simp [hk]

theorem lookup_get_set_eq (lk : Lookup) (k : EqKey) (v : Nat) : (Lookup.set lk k v).get? k = some v := by
  unfold Lookup.set Lookup.get?
  induction lk with
  | nil => simp
  | cons p ps ih =>
    by_cases hp : p.1 = k
    · simp [hp]
    · have hp' : (p.1 == k) = false := by simpa using hp
      by_cases h : ps.any (fun p => p.1 == k) = true
      · simp only [List.any_cons, hp', Bool.false_or, h, if_true, List.map_cons, Bool.false_eq_true, if_false,
          List.find?_cons] at ih ⊢
        exact ih
      · have h' : ps.any (fun p => p.1 == k) = false := Bool.eq_false_iff.mpr h
        simp only [List.any_cons, hp', Bool.false_or, h', Bool.false_eq_true, if_false, List.cons_append,
          List.find?_cons] at ih ⊢
        exact ih

def LkVal (lk : Lookup) (n : Nat) : Prop := ∀ key v, lk.get? key = some v → v < n

/-- the three forms of a lookup key: the object itself (identity-keyed twin; barrier, coordinate shift, measurement),
    or the value of a composite, or the value of a leaf operation — the latter two contain the link object. -/
theorem eqKey_cases (w : World) (x : Nat) :
    w.eqKey x = .ident x ∨ w.eqKey x = .comp (w.op x).link (w.op x).rep ∨
    w.eqKey x = .val (w.op x).cls (w.op x).qs (w.op x).chan (w.op x).dur (w.op x).link (w.op x).ints := by
  unfold World.eqKey
  simp only
  split
  · exact Or.inl rfl
  · split
    · exact Or.inr (Or.inl rfl)
    · exact Or.inl rfl
    · exact Or.inl rfl
    · exact Or.inl rfl
    · exact Or.inr (Or.inr rfl)

theorem eqKey_eq_cases (w : World) (x y : Nat) (h : w.eqKey x = w.eqKey y) :
    x = y ∨ (w.op x).link = (w.op y).link := by
  rcases eqKey_cases w x with hx | hx | hx <;> rcases eqKey_cases w y with hy | hy | hy <;> rw [hx, hy] at h
  · exact Or.inl (EqKey.ident.inj h)
  · cases h
  · cases h
  · cases h
  · exact Or.inr (EqKey.comp.inj h).1
  · cases h
  · cases h
  · cases h
  · exact Or.inr (EqKey.val.inj h).2.2.2.2.1

theorem copyLink_alloc (w : World) (l : Nat) (lk : Lookup) :
    ∃ (w0 : World) (L : Link), w.copyLink l lk = w0.newLink L ∧ SameHeap w0 w ∧
      L.rel = (w.lnk l).rel ∧ L.multi = (w.lnk l).multi := by
  unfold World.copyLink
  cases hm : (w.lnk l).multi
  · simp only [hm, Bool.not_false, if_true]
    exact ⟨w, _, rfl, ⟨rfl, rfl, rfl, SameEnv.refl _⟩, rfl, rfl⟩
  · simp only [hm, Bool.not_true, Bool.false_eq_true, if_false]
    exact ⟨_, _, rfl, ⟨rfl, rfl, rfl, SameEnv.refl _⟩, rfl, rfl⟩

theorem Ext.copyLink (w : World) (l : Nat) (lk : Lookup) :
    Ext w (w.copyLink l lk).1 ∧ (w.copyLink l lk).1.ops = w.ops ∧ (w.copyLink l lk).2 = w.links.size ∧
      (w.copyLink l lk).1.links.size = w.links.size + 1 := by
  obtain ⟨w0, L, he, hs, _, _⟩ := copyLink_alloc w l lk
  rw [he]
  exact ⟨hs.ext.trans (Ext.newLink w0 L), hs.ops, by rw [w0.newLink_snd, hs.links],
    by rw [w0.links_size_newLink, hs.links]⟩

theorem copyLink_rreg (w : World) (l : Nat) (lk : Lookup) : (w.copyLink l lk).1.rreg = w.rreg := by
  unfold World.copyLink
  simp only
  split <;> rfl

/-- the references of the copy of a single link: the head reference sent through the lookup, dropped if unknown. -/
def copyRefs (w : World) (l : Nat) (lk : Lookup) : List Nat :=
  match (w.lnk l).refs.head? with
  | none => []
  | some r => match lk.get? (w.eqKey r) with
    | none => []
    | some r' => [r']

theorem copyLink_single (w : World) (l : Nat) (lk : Lookup) (hm : (w.lnk l).multi = false) :
    w.copyLink l lk = w.newLink { refs := copyRefs w l lk, rel := (w.lnk l).rel } := by
  unfold World.copyLink copyRefs
  simp only [hm, Bool.not_false, if_true]
  rfl

theorem copyLeaf_eq (w : World) (o : Nat) (lk : Lookup) :
    w.copyLeaf o lk = (w.copyLink (w.op o).link lk).1.newOp
      { (w.op o).copyFields with
        link := (w.copyLink (w.op o).link lk).2,
        reg := if (w.op o).cls == .measure then
            (lk.get? ((w.copyLink (w.op o).link lk).1.eqKey (w.op o).reg)).getD (w.op o).reg
          else (w.op o).copyFields.reg } := by
  unfold World.copyLeaf
  have : (w.op o).cls.copyKeepsLink = true := rfl
  simp only [this, if_true]

theorem copyLeaf_single (w : World) (o : Nat) (lk : Lookup) (hm : (w.lnk (w.op o).link).multi = false) :
    ∃ rg, w.copyLeaf o lk =
      (w.newLink { refs := copyRefs w (w.op o).link lk, rel := (w.lnk (w.op o).link).rel }).1.newOp
        { (w.op o).copyFields with link := w.links.size, reg := rg } := by
  unfold World.copyLeaf
  simp only [show ∀ c : Cls, c.copyKeepsLink = true from fun _ => rfl, if_true]
  rw [copyLink_single w _ lk hm]
  exact ⟨_, rfl⟩

theorem copyObj_leaf (w : World) (f o : Nat) (lk : Lookup) (h : (w.op o).isComp = false) :
    w.copyObj (f + 1) o lk = ((w.copyLeaf o lk).1, (w.copyLeaf o lk).2, lk) := by
  rw [World.copyObj]
  simp only [h, Bool.not_false, if_true]

/-- the per-class `copy()` methods in one equation: class and qubits are always passed on, every other field either is
    passed on or takes the value a constructor gives it (27 classes, each by evaluation). -/
theorem copyFields_eq (op : Op) :
    op.copyFields =
      { cls := op.cls, qs := op.qs,
        chan := if op.cls ∈ [Cls.wait, .vacant, .empty, .twovacant] then op.chan else .all,
        dur := if op.cls ∈ [Cls.single, .two, .wait, .vacant, .empty, .twovacant] then op.dur else op.cls.defaultDur,
        tag := if op.cls = .measure then op.tag else 0,
        reg := if op.cls = .measure then op.reg else 0,
        ints := if op.cls ∈ [Cls.detector, .observable, .cshift] then op.ints else [] } := by
  cases op with
  | mk cls qs chan dur link tag reg ints rep graph => cases cls <;> rfl

theorem copyFields_cls' (op : Op) : op.copyFields.cls = op.cls := by
  unfold Op.copyFields
  split <;> rfl

/-- the per-class copy keeps the channel identifiers (no side condition: the classes whose channel identifiers
    mention `chan` are those that pass it on). -/
theorem copyFields_leafChans (op : Op) : op.copyFields.leafChans = op.leafChans := by
  cases op with
  | mk cls qs chan dur link tag reg ints rep graph => cases cls <;> rfl

theorem copyFields_isComp (op : Op) : op.copyFields.isComp = op.isComp := by
  unfold Op.isComp; rw [copyFields_cls']

/-- one step of the copy loop of `CircuitCompositeOperation.copy` (the fold body of `World.copyObj`). -/
def cpStep (f res : Nat) (acc : World × Lookup) (n : Nat) : World × Lookup :=
  let key := acc.1.eqKey n
  let r := acc.1.copyObj f n acc.2
  let w := if r.2.2.any (fun p => p.1 == key) then { r.1 with collisions := r.1.collisions + 1 } else r.1
  (w.add res r.2.1, r.2.2.set key r.2.1)

/-- a step of the copy loop adds the copy of the node to the new composite, on the heap the copy of the node left (up to
    the collision counter). -/
theorem cpStep_fst (f res : Nat) (acc : World × Lookup) (n : Nat) :
    ∃ w2 : World, (cpStep f res acc n).1 = w2.add res (acc.1.copyObj f n acc.2).2.1 ∧
      w2.ops = (acc.1.copyObj f n acc.2).1.ops ∧ w2.links = (acc.1.copyObj f n acc.2).1.links ∧
      w2.rreg = (acc.1.copyObj f n acc.2).1.rreg := by
  unfold cpStep
  simp only
  split
  · exact ⟨_, rfl, rfl, rfl, rfl⟩
  · exact ⟨_, rfl, rfl, rfl, rfl⟩

theorem copyObj_comp' (w : World) (f o : Nat) (lk : Lookup) (h : (w.op o).isComp = true) :
    w.copyObj (f + 1) o lk =
      (((listing (w.op o).graph).foldl (cpStep f (w.copyLink (w.op o).link lk).1.ops.size)
          (((w.copyLink (w.op o).link lk).1.newOp
              { cls := .comp, link := (w.copyLink (w.op o).link lk).2, rep := (w.op o).rep }).1, lk)).1,
       (w.copyLink (w.op o).link lk).1.ops.size,
       ((listing (w.op o).graph).foldl (cpStep f (w.copyLink (w.op o).link lk).1.ops.size)
          (((w.copyLink (w.op o).link lk).1.newOp
              { cls := .comp, link := (w.copyLink (w.op o).link lk).2, rep := (w.op o).rep }).1, lk)).2) := by
  rw [World.copyObj]
  simp only [h, Bool.not_true, Bool.false_eq_true, if_false]
  rfl

theorem copy_eq (w : World) (o : Nat) :
    w.copy o = ((w.copyObj w.depthFuel o []).1, (w.copyObj w.depthFuel o []).2.1) := rfl

theorem addSub_eq (w : World) (c sub : Nat) :
    w.addSub c sub =
      ((w.copyObj w.depthFuel sub [(w.eqKey sub, c)]).1.add c (w.copyObj w.depthFuel sub [(w.eqKey sub, c)]).2.1,
       (w.copyObj w.depthFuel sub [(w.eqKey sub, c)]).2.1) := rfl

/-- the channel test of `leafAtAny`: some identifier of `a` matches some identifier of `b`.  (`Flat.chMatch` of
    Lemmas/FlattenIdem.lean, which does not import this file, is the same function.) -/
def chMatch (a b : List ChId) : Bool := a.any (fun x => b.any (fun y => x.matches y))

theorem leafAtAny_none (w : World) (g : List Entry) (chs : List ChId)
    (h : ∀ e ∈ g, chMatch chs (w.chansOf e.node) = false) : w.leafAtAny g chs = none := by
  unfold World.leafAtAny
  rw [List.find?_eq_none]
  intro x hx
  obtain ⟨e, he, rfl⟩ := mem_listing_iff.mp (List.mem_reverse.mp hx)
  exact Bool.eq_false_iff.mp (h e he)

/-- node map of a copy loop whose new composite is object `R`: the copy of the `i`-th object of the visiting order `D`
    is object `R + 1 + i`. -/
def cpNode (R : Nat) (D : List Nat) (n : Nat) : Nat := R + 1 + D.idxOf n

theorem cpNode_at {R : Nat} {D D1 D2 : List Nat} {n : Nat} (hs : D = D1 ++ n :: D2) (hn : n ∉ D1) :
    cpNode R D n = R + 1 + D1.length := by
  unfold cpNode
  rw [hs, List.idxOf_append, if_neg hn]
  simp

theorem idxOf_inj {l : List Nat} {a b : Nat} (ha : a ∈ l) (hb : b ∈ l) (h : l.idxOf a = l.idxOf b) : a = b := by
  have h1 : l[l.idxOf a]? = some a := by
    rw [List.getElem?_eq_getElem (List.idxOf_lt_length_of_mem ha)]; simp
  have h2 : l[l.idxOf b]? = some b := by
    rw [List.getElem?_eq_getElem (List.idxOf_lt_length_of_mem hb)]; simp
  rw [h, h2] at h1
  exact (Option.some.inj h1).symm

theorem cpNode_inj {R : Nat} {D : List Nat} {a b : Nat} (ha : a ∈ D) (hb : b ∈ D) (h : cpNode R D a = cpNode R D b) :
    a = b := by
  unfold cpNode at h
  exact idxOf_inj ha hb (by omega)

end Qco
