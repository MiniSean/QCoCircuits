import QcoVerif.Lemmas.RepDesc
import QcoVerif.Lemmas.RepLayers
/-
  C09: the closed-form states `stateB` as registers, and what one QEC round does to them, given its effect
  without the refocusing pulses (`RoundEffect`, the one fact that depends on the gate layers).
-/
namespace Qco.RepCode
open Qco.StimSem

/-- data qubits after a number of refocusing rounds of parity `bd`, ancillas after a number of rounds of
    parity `ba` -/
def SB (d : Desc) (nD nA : Nat) (bd ba : Bool) : Nat → Q := fun q =>
  if d.dataIdx.contains q then ⟨.Z, finalFormB d nD bd q⟩
  else if d.ancIdx.contains q then ⟨.Z, cycleFormB d nD nA ba q⟩ else ⟨.Z, 0⟩

theorem stateB_eq (d : Desc) (nD nA : Nat) (b : Bool) : stateB d nD nA b = mk d.size (SB d nD nA b b) := rfl

theorem SB_Z (d : Desc) (nD nA : Nat) (bd ba : Bool) (q : Nat) : (SB d nD nA bd ba q).b = .Z := by
  unfold SB; split
  · rfl
  · split <;> rfl

/-- `get_circuit_qec_round` from the closed-form state of parity `b`: the ancillas move to the other parity
    and are measured -/
def RoundEffect (d : Desc) (nD nA : Nat) : Prop :=
  ∀ b, run (roundPlain d) ⟨stateB d nD nA b, [], [], 0⟩ =
    some ⟨mk d.size (SB d nD nA b (!b)), cB d nD nA (!b), [], 0⟩

section
variable {d : Desc} (hwf : d.wellFormed = true) (nD nA : Nat)

theorem SB_data (bd ba : Bool) {q : Nat} (hq : q ∈ d.dataIdx) :
    SB d nD nA bd ba q = ⟨.Z, finalFormB d nD bd q⟩ := by
  simp [SB, hq]

theorem SB_not_data (bd bd' ba : Bool) {q : Nat} (hq : q ∉ d.dataIdx) :
    SB d nD nA bd ba q = SB d nD nA bd' ba q := by
  simp [SB, hq]

include hwf in
theorem SB_anc (bd ba : Bool) {q : Nat} (hq : q ∈ d.ancIdx) :
    SB d nD nA bd ba q = ⟨.Z, cycleFormB d nD nA ba q⟩ := by
  have : q ∉ d.dataIdx := fun h => not_anc_of_data hwf h hq
  simp [SB, hq, this]

theorem cycle_pair (x : Bool) (q : Nat) :
    cycleFormB d nD nA x q ^^^ cycleFormB d nD nA (!x) q = parityForm d nD q := by
  simp only [cycleFormB]
  generalize aVar d nD nA q = A
  generalize parityForm d nD q = P
  cases x
  · simp only [Bool.not_false, Bool.false_eq_true, if_false, if_true, Nat.xor_zero]
    rw [← Nat.xor_assoc, Nat.xor_self, Nat.zero_xor]
  · simp only [Bool.not_true, Bool.false_eq_true, if_false, if_true, Nat.xor_zero]
    rw [Nat.xor_comm, ← Nat.xor_assoc, Nat.xor_self, Nat.zero_xor]

include hwf in
/-- the refocusing pulses -/
theorem run_X_data (hr : d.refocus = true) (b ba : Bool) (T D : List Nat) (o : Nat) :
    run (d.measData.map .X) ⟨mk d.size (SB d nD nA b ba), T, D, o⟩ =
      some ⟨mk d.size (SB d nD nA (!b) ba), T, D, o⟩ := by
  have hmem : ∀ q, q ∈ d.measData ↔ q ∈ d.dataIdx := fun q => (measData_perm hwf).mem_iff
  rw [run_act1_layer .X (.Z, 1) (.X, 0) (.Y, 1) (fun _ _ => rfl) _ _
    (fun q hq => data_lt_size ((hmem q).mp hq)) (measData_nodup hwf)]
  congr 2
  apply mk_congr
  intro x _
  by_cases hx : x ∈ d.dataIdx
  · simp only [hmem, hx, if_true, SB_data nD nA _ ba hx, loc, finalFormB, hr]
    cases b
    · simp
    · simp [xor_xor_self]
  · simp only [hmem, hx, if_false]
    exact SB_not_data nD nA b (!b) ba hx

variable {nD nA} (hR : RoundEffect d nD nA)
include hR

theorem run_roundPlain (b : Bool) (T D : List Nat) (o : Nat) :
    run (roundPlain d) ⟨stateB d nD nA b, T, D, o⟩ =
      some ⟨mk d.size (SB d nD nA b (!b)), cB d nD nA (!b) ++ T, D, o⟩ := by
  simpa [extend] using run_frame T D o (hR b)

include hwf in
/-- one QEC round with dynamical decoupling maps the closed-form state of parity `b` to the one of parity `!b`
    and appends the outcomes `cB (!b)` -/
theorem run_roundDD (b : Bool) (T D : List Nat) (o : Nat) :
    run (roundDD d) ⟨stateB d nD nA b, T, D, o⟩ =
      some ⟨stateB d nD nA (!b), cB d nD nA (!b) ++ T, D, o⟩ := by
  unfold roundDD
  rw [List.append_assoc, run_append_some (run_roundPlain hR b T D o), stateB_eq]
  cases hr : d.refocus
  · have : SB d nD nA b (!b) = SB d nD nA (!b) (!b) := by
      funext q; simp [SB, finalFormB, hr]
    rw [this]; rfl
  · simp only [if_true]
    rw [run_append_some (run_X_data hwf nD nA hr b (!b) _ D o)]
    rfl

end

end Qco.RepCode
