import QcoVerif.Lemmas.C10Param
import QcoVerif.Lemmas.Commute
import QcoVerif.Lemmas.Heap
/-
  C10, parametric layer lemmas: where the BUILDER puts an operation (one step of `World.add`, the function the
  driver executes for `CircuitCompositeOperation.add`).

  An operation without relation is hung, by a fresh single FOLLOWED_BY link, below the LAST node in listing order
  that shares a channel with it (`add_links_below_leaf`), a deepest one among the matching nodes
  (`leafAtAny_deepest`); an operation that matches every node (a barrier on all qubits) goes below the last node of
  the listing (`add_all_matching_below_last`).  So the closing barrier of a layer hangs below the last-listed, deepest
  path — the layer theorem (Lemmas/C10Param.lean) asks that this path be one of the last to END: "the deepest path is
  a longest one".
-/
namespace Qco.C10Param

open Qco Qco.C10

/-- does `n` share a channel with `chs`? (the test of `leafAtAny`) -/
def matchesNode (w : World) (chs : List ChId) (n : Nat) : Bool :=
  chs.any (fun a => (w.chansOf n).any (fun b => a.matches b))

theorem leafAtAny_eq (w : World) (g : List Entry) (chs : List ChId) :
    w.leafAtAny g chs = (listing g).reverse.find? (matchesNode w chs) := rfl

theorem leafAtAny_last {w : World} {g : List Entry} {chs : List ChId} {lf : Nat}
    (h : w.leafAtAny g chs = some lf) :
    matchesNode w chs lf = true ∧ ∃ pre post, listing g = pre ++ lf :: post ∧
      ∀ n ∈ post, matchesNode w chs n = false := by
  rw [leafAtAny_eq] at h
  obtain ⟨hp, as, bs, hsplit, hnone⟩ := List.find?_eq_some_iff_append.mp h
  refine ⟨by simpa using hp, bs.reverse, as.reverse, ?_, ?_⟩
  · have := congrArg List.reverse hsplit
    simpa using this
  · intro n hn
    have : n ∈ as := by simpa using hn
    simpa using hnone n this

theorem leafAtAny_all_match {w : World} {g : List Entry} {chs : List ChId}
    (hall : ∀ n ∈ listing g, matchesNode w chs n = true) : w.leafAtAny g chs = (listing g).getLast? := by
  rw [leafAtAny_eq]
  cases hrev : (listing g).reverse with
  | nil =>
    have : listing g = [] := by simpa using hrev
    simp [this]
  | cons x xs =>
    have hx : x ∈ listing g := by
      have : x ∈ (listing g).reverse := by rw [hrev]; exact List.mem_cons_self
      simpa using this
    have hlast : (listing g).getLast? = some x := by
      have : listing g = xs.reverse ++ [x] := by
        have := congrArg List.reverse hrev
        simpa using this
      rw [this]; simp
    rw [hlast, List.find?_cons, hall x hx]

/-- the node `add` picks is a DEEPEST matching node (the listing is breadth-first). -/
theorem leafAtAny_deepest {w : World} {g : List Entry} {chs : List ChId} {lf : Nat}
    (h : w.leafAtAny g chs = some lf) :
    ∃ e ∈ g, e.node = lf ∧ ∀ e' ∈ g, matchesNode w chs e'.node = true → e'.key.length ≤ e.key.length := by
  rw [leafAtAny_eq] at h
  unfold listing at h
  rw [← List.map_reverse, List.find?_map] at h
  cases hf : (sortedEntries g).reverse.find? (matchesNode w chs ∘ fun e => e.node) with
  | none => rw [hf] at h; cases h
  | some e =>
    rw [hf] at h
    simp only [Option.map_some, Option.some.injEq] at h
    obtain ⟨_, hmem, hdeep⟩ := last_match_deepest (sortedEntries_depth_sorted g) hf
    refine ⟨e, (sortedEntries_perm g).mem_iff.mp hmem, h, ?_⟩
    intro e' he' hm
    exact hdeep e' ((sortedEntries_perm g).mem_iff.mpr he') hm

/-- **One step of the builder.**  `c.add(o)` for an operation `o` without relation, when some node of `c` shares a
    channel with it: `o` gets a fresh single FOLLOWED_BY link to the last matching node `lf` of the listing and is
    attached below it in the relation tree. -/
theorem add_links_below_leaf {w : World} {c o lf : Nat} (hc : c < w.ops.size) (ho : o < w.ops.size) (hoc : o ≠ c)
    (hrel : w.hasRel o = false) (hleaf : w.leafAtAny (w.op c).graph (w.chansOf o) = some lf) :
    DirectFb (w.add c o) lf o ∧ ((w.add c o).op c).graph = attach (w.op c).graph (some lf) o := by
  rw [add_relink_eq w c o lf hrel hleaf]
  have ho' : o < (w.newLink { refs := [lf] }).1.ops.size := ho
  constructor
  · -- the link of `o` is the fresh link, whose only reference is `lf`
    unfold DirectFb
    rw [World.op_setGraph_of_ne _ _ hoc, World.op_setLink_self _ _ ho', World.lnk_setGraph, World.lnk_setLink]
    show ((w.newLink { refs := [lf] }).1.lnk w.links.size).rel = .fb ∧ _
    rw [World.lnk_newLink_new]
    exact ⟨rfl, Or.inl ⟨rfl, rfl⟩⟩
  · rw [World.op_setGraph_self _ _ (by rw [World.ops_size_setLink]; exact hc)]

/-- **Where the builder puts an all-qubit barrier** (any operation that shares a channel with every node): below the
    last node of the listing, which is a deepest node of the relation tree. -/
theorem add_all_matching_below_last {w : World} {c o : Nat} (hc : c < w.ops.size) (ho : o < w.ops.size) (hoc : o ≠ c)
    (hrel : w.hasRel o = false) {lf : Nat} (hlast : (listing (w.op c).graph).getLast? = some lf)
    (hall : ∀ n ∈ listing (w.op c).graph, matchesNode w (w.chansOf o) n = true) :
    DirectFb (w.add c o) lf o ∧ ((w.add c o).op c).graph = attach (w.op c).graph (some lf) o ∧
    ∃ e ∈ (w.op c).graph, e.node = lf ∧ ∀ e' ∈ (w.op c).graph, e'.key.length ≤ e.key.length := by
  have hleaf : w.leafAtAny (w.op c).graph (w.chansOf o) = some lf := by rw [leafAtAny_all_match hall, hlast]
  obtain ⟨h1, h2⟩ := add_links_below_leaf hc ho hoc hrel hleaf
  obtain ⟨e, he, hn, hdeep⟩ := leafAtAny_deepest hleaf
  refine ⟨h1, h2, e, he, hn, ?_⟩
  intro e' he'
  exact hdeep e' he' (hall e'.node (mem_listing_iff.mpr ⟨e', he', rfl⟩))

end Qco.C10Param
