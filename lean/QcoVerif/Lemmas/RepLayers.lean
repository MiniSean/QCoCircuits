import QcoVerif.Lemmas.StimSem
/-
  C09: layer lemmas for the product-state semantics.

  A register is written `mk N F` (qubit `q < N` is in state `F q`).  A layer of single-qubit gates on
  distinct qubits, a layer of CZ gates whose "control" ends are Z-eigenstates that no gate of the layer
  modifies, a layer of measurements, of detectors, of observable includes: each has a closed-form effect.
-/
namespace Qco.StimSem

def mk (N : Nat) (F : Nat → Q) : List Q := (List.range N).map F

def upd (F : Nat → Q) (q : Nat) (v : Q) : Nat → Q := fun x => if x = q then v else F x

theorem mk_length (N : Nat) (F : Nat → Q) : (mk N F).length = N := by simp [mk]

theorem mk_get {N : Nat} (F : Nat → Q) {q : Nat} (h : q < N) : (mk N F)[q]? = some (F q) := by
  simp [mk, List.getElem?_map, List.getElem?_range h]

theorem mk_get_none {N : Nat} (F : Nat → Q) {q : Nat} (h : N ≤ q) : (mk N F)[q]? = none := by
  simp [mk, h]

theorem mk_congr {N : Nat} {F G : Nat → Q} (h : ∀ q, q < N → F q = G q) : mk N F = mk N G := by
  apply List.map_congr_left
  intro q hq
  exact h q (List.mem_range.mp hq)

theorem mk_set (N : Nat) (F : Nat → Q) (q : Nat) (v : Q) : (mk N F).set q v = mk N (upd F q v) := by
  apply List.ext_getElem?
  intro j
  rw [List.getElem?_set]
  by_cases hj : j < N
  · rw [mk_get _ hj, mk_get _ hj, mk_length]
    by_cases hq : q = j
    · subst hq; simp [upd, hj]
    · have : ¬ j = q := fun h => hq h.symm
      simp [upd, hq, this]
  · have hj' : N ≤ j := by omega
    rw [mk_get_none _ hj', mk_get_none _ hj', mk_length]
    by_cases hq : q = j
    · subst hq; simp [hj]
    · simp [hq]

theorem act1_mk (onZ onX onY : Basis × Nat) {N : Nat} (F : Nat → Q) {q : Nat} (h : q < N)
    (mrec det : List Nat) (obs : Nat) :
    act1 onZ onX onY ⟨mk N F, mrec, det, obs⟩ q =
      some ⟨mk N (upd F q (loc onZ onX onY (F q))), mrec, det, obs⟩ := by
  unfold act1
  simp only [mk_get F h]
  rcases hq : F q with ⟨b, f⟩
  cases b <;> simp [loc, mk_set]

theorem run_act1_layer (G : Nat → Ins) (onZ onX onY : Basis × Nat)
    (hG : ∀ s q, step s (G q) = act1 onZ onX onY s q)
    (N : Nat) (l : List Nat) (hl : ∀ q ∈ l, q < N) (hnd : l.Nodup) (F : Nat → Q)
    (mrec det : List Nat) (obs : Nat) :
    run (l.map G) ⟨mk N F, mrec, det, obs⟩ =
      some ⟨mk N (fun x => if x ∈ l then loc onZ onX onY (F x) else F x), mrec, det, obs⟩ := by
  induction l generalizing F with
  | nil => simp [run]
  | cons q l ih =>
    have hq : q < N := hl q (List.mem_cons_self)
    have hnd' := List.nodup_cons.mp hnd
    simp only [List.map_cons, run, hG, act1_mk onZ onX onY F hq]
    rw [ih (fun x hx => hl x (List.mem_cons_of_mem _ hx)) hnd'.2]
    congr 2
    apply mk_congr
    intro x _
    by_cases hx : x = q
    · subst hx; simp [upd, hnd'.1]
    · by_cases hxl : x ∈ l <;> simp [upd, hx, hxl]

/-! ### a layer of CZ gates: target `t` (an X-eigenstate) picks up the form of its control `c t`
    (a Z-eigenstate that is no target of the layer) -/

theorem run_cz_layer (N : Nat) (c : Nat → Nat) (mkI : Nat → Ins)
    (hI : ∀ t, mkI t = .CZ (c t) t ∨ mkI t = .CZ t (c t))
    (ts : List Nat) (hnd : ts.Nodup) (F : Nat → Q)
    (h : ∀ t ∈ ts, t < N ∧ c t < N ∧ (F (c t)).b = .Z ∧ (F t).b = .X)
    (hdis : ∀ t ∈ ts, c t ∉ ts)
    (mrec det : List Nat) (obs : Nat) :
    run (ts.map mkI) ⟨mk N F, mrec, det, obs⟩ =
      some ⟨mk N (fun x => if x ∈ ts then ⟨.X, (F x).f ^^^ (F (c x)).f⟩ else F x), mrec, det, obs⟩ := by
  induction ts generalizing F with
  | nil => simp [run]
  | cons t ts ih =>
    obtain ⟨ht, hct, hz, hx⟩ := h t List.mem_cons_self
    have hnd' := List.nodup_cons.mp hnd
    have hne : c t ≠ t := fun e => hdis t List.mem_cons_self (by rw [e]; exact List.mem_cons_self)
    have hstep : step ⟨mk N F, mrec, det, obs⟩ (mkI t) =
        some ⟨mk N (upd F t ⟨.X, (F t).f ^^^ (F (c t)).f⟩), mrec, det, obs⟩ := by
      rcases hFt : F t with ⟨bt, ft⟩
      rcases hFc : F (c t) with ⟨bc, fc⟩
      rw [hFt] at hx; rw [hFc] at hz
      simp only at hx hz
      subst hx; subst hz
      rcases hI t with e | e
      · rw [e]
        simp only [step, hne, if_false, mk_get F ht, mk_get F hct, hFt, hFc, mk_set]
      · rw [e]
        have hne' : ¬ t = c t := fun e => hne e.symm
        simp only [step, hne', if_false, mk_get F ht, mk_get F hct, hFt, hFc, mk_set]
    simp only [List.map_cons, run, hstep]
    rw [ih hnd'.2]
    · congr 2
      apply mk_congr
      intro x _
      by_cases hxt : x = t
      · subst hxt; simp [upd, hnd'.1]
      · by_cases hxl : x ∈ ts
        · have hcx : c x ≠ t := fun e => hdis x (List.mem_cons_of_mem _ hxl) (by rw [e]; exact List.mem_cons_self)
          simp [upd, hxt, hxl, hcx]
        · simp [upd, hxt, hxl]
    · intro t' ht'
      obtain ⟨a1, a2, a3, a4⟩ := h t' (List.mem_cons_of_mem _ ht')
      have hct' : c t' ≠ t := fun e => hdis t' (List.mem_cons_of_mem _ ht') (by rw [e]; exact List.mem_cons_self)
      have htt' : t' ≠ t := fun e => hnd'.1 (e ▸ ht')
      refine ⟨a1, a2, ?_, ?_⟩
      · simpa [upd, hct'] using a3
      · simpa [upd, htt'] using a4
    · intro t' ht' hmem
      exact hdis t' (List.mem_cons_of_mem _ ht') (List.mem_cons_of_mem _ hmem)

theorem run_M_layer (N : Nat) (l : List Nat) (F : Nat → Q) (g : Nat → Nat)
    (h : ∀ q ∈ l, q < N ∧ F q = ⟨.Z, g q⟩) (mrec det : List Nat) (obs : Nat) :
    run (l.map .M) ⟨mk N F, mrec, det, obs⟩ = some ⟨mk N F, (l.map g).reverse ++ mrec, det, obs⟩ := by
  induction l generalizing mrec with
  | nil => simp [run]
  | cons q l ih =>
    obtain ⟨hq, hF⟩ := h q List.mem_cons_self
    simp only [List.map_cons, run, step, mk_get F hq, hF]
    rw [ih (fun x hx => h x (List.mem_cons_of_mem _ hx))]
    simp

theorem run_DET_layer {α : Type} (l : List α) (c0 c1 : α → Int) (ts : α → List Int) (v : α → Nat)
    (q : List Q) (mrec det : List Nat) (obs : Nat)
    (h : ∀ a ∈ l, sumLookbacks mrec (ts a) = some (v a)) :
    run (l.map fun a => .DET (c0 a) (c1 a) (ts a)) ⟨q, mrec, det, obs⟩ =
      some ⟨q, mrec, (l.map v).reverse ++ det, obs⟩ := by
  induction l generalizing det with
  | nil => simp [run]
  | cons a l ih =>
    simp only [List.map_cons, run, step, h a List.mem_cons_self]
    rw [ih _ (fun x hx => h x (List.mem_cons_of_mem _ hx))]
    simp

theorem run_OBS_layer {α : Type} (l : List α) (ts : α → List Int) (v : α → Nat)
    (q : List Q) (mrec det : List Nat) (obs : Nat)
    (h : ∀ a ∈ l, sumLookbacks mrec (ts a) = some (v a)) :
    run (l.map fun a => .OBS 0 (ts a)) ⟨q, mrec, det, obs⟩ =
      some ⟨q, mrec, det, (l.map v).foldl (· ^^^ ·) obs⟩ := by
  induction l generalizing obs with
  | nil => simp [run]
  | cons a l ih =>
    simp only [List.map_cons, run, step, h a List.mem_cons_self]
    simp only [ne_eq, not_true_eq_false, if_false]
    rw [ih _ (fun x hx => h x (List.mem_cons_of_mem _ hx))]
    simp

theorem run_TICK (s : St) : run [.TICK] s = some s := rfl

end Qco.StimSem
