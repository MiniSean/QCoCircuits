import QcoVerif.Model.StimSem
/-
  General facts about the product-state semantics `run` (for the Rep* lemma files and Properties/C09.lean):
  a defined run depends neither on older record entries nor on earlier detectors (`run_frame`); a GF(2)-linear
  map of the forms commutes with running (`run_xorHom`), and with instantiating the symbolic preparation gates
  when it sends each variable to its value (`run_hom`; `evalNat σ` is such a map); SHIFT_COORDS is irrelevant
  (`run_dropShift`); a block repeated k times, by induction with period 2 (`run_repeat`).  With them the identities
  of `^^^` on `Nat` these files calculate with.
-/
namespace Qco.StimSem

theorem run_append (p q : List Ins) (s : St) :
    run (p ++ q) s = (run p s).bind (run q) := by
  induction p generalizing s with
  | nil => simp [run]
  | cons i is ih =>
    simp only [List.cons_append, run]
    cases step s i with
    | none => simp
    | some s' => simpa using ih s'

theorem run_append_some {p q : List Ins} {s s' : St} (h : run p s = some s') :
    run (p ++ q) s = run q s' := by
  rw [run_append, h]; rfl

theorem run_cons_some {i : Ins} {p : List Ins} {s s' : St} (h : run (i :: p) s = some s') :
    ∃ s1, step s i = some s1 ∧ run p s1 = some s' := by
  simp only [run] at h
  cases hs : step s i with
  | none => simp [hs] at h
  | some s1 => exact ⟨s1, rfl, by simpa [hs] using h⟩

/-- the effect of a single-qubit Clifford on the addressed qubit -/
def loc (onZ onX onY : Basis × Nat) (x : Q) : Q :=
  match x.b with
  | .Z => ⟨onZ.1, x.f ^^^ onZ.2⟩
  | .X => ⟨onX.1, x.f ^^^ onX.2⟩
  | .Y => ⟨onY.1, x.f ^^^ onY.2⟩

theorem act1_eq (onZ onX onY : Basis × Nat) (s : St) (q : Nat) :
    act1 onZ onX onY s q = (s.q[q]?).map fun x => { s with q := s.q.set q (loc onZ onX onY x) } := by
  unfold act1
  cases s.q[q]? with
  | none => rfl
  | some x => obtain ⟨b, f⟩ := x; cases b <;> rfl

def isGate : Ins → Bool
  | .M _ | .DET _ _ _ | .OBS _ _ => false
  | _ => true

/-- the register after a gate (`none` if undefined) -/
def gateOn (r : List Q) (i : Ins) : Option (List Q) := (step ⟨r, [], [], 0⟩ i).map (·.q)

theorem step_gate {i : Ins} (hi : isGate i = true) (s : St) :
    step s i = (gateOn s.q i).map fun r => { s with q := r } := by
  cases i with
  | M _ | DET _ _ _ | OBS _ _ => cases hi
  | TICK | SHIFT _ _ => rfl
  | R q | I q => simp only [step, gateOn]; split <;> rfl
  | X q | Y q | H q | SX q | SXd q | SY q | SYd q =>
    simp only [step, gateOn, act1_eq]; cases s.q[q]? <;> rfl
  | XV q v => simp only [step, gateOn]; split <;> rfl
  | CZ a b =>
    simp only [step, gateOn]
    split
    · rfl
    · split <;> rfl

theorem step_counts {s s' : St} {i : Ins} (h : step s i = some s') :
    s'.det.length = s.det.length + (if isDet i then 1 else 0) ∧
    s'.mrec.length = s.mrec.length + (if isM i then 1 else 0) := by
  by_cases hi : isGate i = true
  · rw [step_gate hi] at h
    obtain ⟨r, _, rfl⟩ := Option.map_eq_some_iff.mp h
    cases i <;> first | exact ⟨rfl, rfl⟩ | cases hi
  · cases i with
    | M q => simp only [step] at h; split at h <;> cases h; exact ⟨rfl, rfl⟩
    | DET c0 c1 ts => simp only [step] at h; split at h <;> cases h; exact ⟨rfl, rfl⟩
    | OBS k ts =>
      simp only [step] at h
      split at h
      · cases h
      · split at h <;> cases h; exact ⟨rfl, rfl⟩
    | _ => exact absurd rfl hi

theorem run_counts (p : List Ins) (s s' : St) (h : run p s = some s') :
    s'.det.length = s.det.length + p.countP isDet ∧ s'.mrec.length = s.mrec.length + p.countP isM := by
  induction p generalizing s with
  | nil => cases h; exact ⟨rfl, rfl⟩
  | cons i is ih =>
    obtain ⟨s1, h1, h2⟩ := run_cons_some h
    have := ih s1 h2
    have := step_counts h1
    rw [List.countP_cons, List.countP_cons]
    omega

def extend (s : St) (t D : List Nat) (o : Nat) : St := ⟨s.q, s.mrec ++ t, s.det ++ D, s.obs ^^^ o⟩

theorem lookback_append {r : List Nat} {t : Int} {v : Nat} (tail : List Nat)
    (h : lookback r t = some v) : lookback (r ++ tail) t = some v := by
  unfold lookback at h ⊢
  split at h
  · rename_i ht
    simp only [ht, if_true]
    have hl : (-t).toNat - 1 < r.length := by
      rcases Nat.lt_or_ge ((-t).toNat - 1) r.length with hl | hl
      · exact hl
      · rw [List.getElem?_eq_none hl] at h; cases h
    rw [List.getElem?_append_left hl]; exact h
  · cases h

theorem sumLookbacks_append {r : List Nat} {ts : List Int} {v : Nat} (tail : List Nat)
    (h : sumLookbacks r ts = some v) : sumLookbacks (r ++ tail) ts = some v := by
  induction ts generalizing v with
  | nil => exact h
  | cons t ts ih =>
    simp only [sumLookbacks] at h ⊢
    cases h1 : lookback r t with
    | none => simp [h1] at h
    | some a =>
      cases h2 : sumLookbacks r ts with
      | none => simp [h1, h2] at h
      | some b =>
        rw [lookback_append tail h1, ih h2]
        simpa [h1, h2] using h

local macro "fin_frame " h:ident : tactic =>
  `(tactic| first | (cases $h:ident; rfl) | (cases $h:ident; simp) | (subst $h:ident; simp))

theorem step_frame {s s' : St} {i : Ins} (t D : List Nat) (o : Nat) (h : step s i = some s') :
    step (extend s t D o) i = some (extend s' t D o) := by
  by_cases hi : isGate i = true
  · rw [step_gate hi] at h ⊢
    obtain ⟨r, hr, rfl⟩ := Option.map_eq_some_iff.mp h
    show Option.map _ (gateOn s.q i) = _
    rw [hr]; rfl
  · cases i with
    | M q =>
      simp only [step] at h
      split at h <;> cases h
      rename_i f hq
      simp only [step, extend, hq]
      rfl
    | DET c0 c1 ts =>
      simp only [step] at h
      split at h <;> cases h
      rename_i v hv
      simp only [step, extend, sumLookbacks_append t hv]
      rfl
    | OBS k ts =>
      simp only [step] at h
      split at h
      · cases h
      · rename_i hk
        split at h <;> cases h
        rename_i v hv
        simp only [step, extend, hk, if_false, sumLookbacks_append t hv, Nat.xor_assoc, Nat.xor_comm v o]
    | _ => exact absurd rfl hi

theorem run_frame {p : List Ins} {s s' : St} (t D : List Nat) (o : Nat) (h : run p s = some s') :
    run p (extend s t D o) = some (extend s' t D o) := by
  induction p generalizing s with
  | nil => cases h; rfl
  | cons i is ih =>
    obtain ⟨s1, h1, h2⟩ := run_cons_some h
    simp only [run, step_frame t D o h1]
    exact ih h2

structure XorHom (h : Nat → Nat) : Prop where
  xor : ∀ a b, h (a ^^^ b) = h a ^^^ h b
  zero : h 0 = 0
  one : h 1 = 1

structure FormHom (h : Nat → Nat) (σ : Nat → Bool) : Prop extends XorHom h where
  var : ∀ v, h (Qco.StimSem.var v) = (σ v).toNat

theorem lookback_map (h : Nat → Nat) (r : List Nat) (t : Int) :
    lookback (r.map h) t = (lookback r t).map h := by
  unfold lookback
  split <;> simp [List.getElem?_map]

theorem sumLookbacks_map {h : Nat → Nat} (H : XorHom h) (r : List Nat) (ts : List Int) :
    sumLookbacks (r.map h) ts = (sumLookbacks r ts).map h := by
  induction ts with
  | nil => simp [sumLookbacks, H.zero]
  | cons t ts ih =>
    simp only [sumLookbacks, ih, lookback_map]
    cases lookback r t <;> cases sumLookbacks r ts <;> simp [H.xor]

theorem act1_map {h : Nat → Nat} (H : XorHom h) (onZ onX onY : Basis × Nat)
    (hz : h onZ.2 = onZ.2) (hx : h onX.2 = onX.2) (hy : h onY.2 = onY.2) (s : St) (q : Nat) :
    act1 onZ onX onY (mapSt h s) q = (act1 onZ onX onY s q).map (mapSt h) := by
  unfold act1
  simp only [mapSt, List.getElem?_map]
  cases s.q[q]? with
  | none => rfl
  | some x =>
    obtain ⟨b, f⟩ := x
    cases b <;> simp [mapQ, mapSt, List.map_set, H.xor, hz, hx, hy]

theorem step_xorHom {h : Nat → Nat} (H : XorHom h) (s : St) {i : Ins} (hi : isXV i = false) :
    step (mapSt h s) i = (step s i).map (mapSt h) := by
  have h0 := H.zero
  have h1 := H.one
  cases i with
  | R q =>
    simp only [step, mapSt, List.length_map]
    split <;> simp [mapSt, mapQ, List.map_set, h0]
  | M q =>
    simp only [step, mapSt, List.getElem?_map]
    cases hq : s.q[q]? with
    | none => simp
    | some x => obtain ⟨b, f⟩ := x; cases b <;> simp [mapQ, mapSt]
  | I q =>
    simp only [step, mapSt, List.length_map]
    split <;> simp [mapSt]
  | X q => exact act1_map H _ _ _ h1 h0 h1 s q
  | Y q => exact act1_map H _ _ _ h1 h1 h0 s q
  | H q => exact act1_map H _ _ _ h0 h0 h1 s q
  | SX q => exact act1_map H _ _ _ h1 h0 h0 s q
  | SXd q => exact act1_map H _ _ _ h0 h0 h1 s q
  | SY q => exact act1_map H _ _ _ h0 h1 h0 s q
  | SYd q => exact act1_map H _ _ _ h1 h0 h0 s q
  | CZ a b =>
    simp only [step]
    by_cases hab : a = b
    · simp [hab]
    · simp only [hab, if_false, mapSt, List.getElem?_map]
      cases ha : s.q[a]? with
      | none => simp
      | some x =>
        cases hb : s.q[b]? with
        | none => obtain ⟨bx, fx⟩ := x; cases bx <;> simp [mapQ]
        | some y =>
          obtain ⟨bx, fx⟩ := x
          obtain ⟨by', fy⟩ := y
          cases bx <;> cases by' <;> simp [mapQ, mapSt, List.map_set, H.xor]
  | TICK => rfl
  | SHIFT a b => rfl
  | DET a b ts =>
    simp only [step, mapSt, sumLookbacks_map H]
    cases sumLookbacks s.mrec ts <;> simp [mapSt]
  | OBS idx ts =>
    simp only [step]
    by_cases hi : idx = 0
    · simp only [hi, ne_eq, not_true_eq_false, if_false, mapSt, sumLookbacks_map H]
      cases sumLookbacks s.mrec ts <;> simp [mapSt, H.xor]
    · simp [hi]
  | XV q v => cases hi

theorem run_xorHom {h : Nat → Nat} (H : XorHom h) {p : List Ins} (hp : p.all (fun i => !isXV i) = true) (s : St) :
    run p (mapSt h s) = (run p s).map (mapSt h) := by
  induction p generalizing s with
  | nil => rfl
  | cons i is ih =>
    rw [List.all_cons, Bool.and_eq_true, Bool.not_eq_true'] at hp
    simp only [run, step_xorHom H s hp.1]
    cases step s i with
    | none => rfl
    | some s' => exact ih hp.2 s'

theorem set_eq_self {α} {l : List α} {q : Nat} {y : α} (h : l[q]? = some y) : l.set q y = l := by
  apply List.ext_getElem?
  intro j
  rw [List.getElem?_set]
  split
  · rename_i hj; subst hj
    have hl : q < l.length := by
      rcases Nat.lt_or_ge q l.length with hl | hl
      · exact hl
      · rw [List.getElem?_eq_none hl] at h; cases h
    simp [hl, ← h]
  · rfl

theorem step_hom {h : Nat → Nat} {σ} (H : FormHom h σ) (s : St) (i : Ins) :
    step (mapSt h s) (instIns σ i) = (step s i).map (mapSt h) := by
  cases i with
  | XV q v =>
    have hx : ∀ f, h (f ^^^ var v) = h f ^^^ (σ v).toNat := fun f => by rw [H.xor, H.var]
    cases hv : σ v with
    | true =>
      simp only [instIns, hv, if_true, step, act1, mapSt, List.getElem?_map]
      cases s.q[q]? with
      | none => rfl
      | some x => obtain ⟨b, f⟩ := x; cases b <;> simp [mapQ, mapSt, List.map_set, hx, hv]
    | false =>
      simp only [instIns, hv, step, mapSt, List.getElem?_map, List.length_map]
      cases hq : s.q[q]? with
      | none =>
        have : ¬ q < s.q.length := fun hl => by rw [List.getElem?_eq_getElem hl] at hq; cases hq
        simp [this]
      | some x =>
        have hl : q < s.q.length := by
          rcases Nat.lt_or_ge q s.q.length with hl | hl
          · exact hl
          · rw [List.getElem?_eq_none hl] at hq; cases hq
        obtain ⟨b, f⟩ := x
        have hset : (s.q.map (mapQ h)).set q (mapQ h ⟨b, f⟩) = s.q.map (mapQ h) :=
          set_eq_self (by simp [hq])
        cases b <;> simp_all [mapQ, mapSt, List.map_set]
  | _ => exact step_xorHom H.toXorHom s rfl

theorem run_hom {h : Nat → Nat} {σ} (H : FormHom h σ) (p : List Ins) (s : St) :
    run (p.map (instIns σ)) (mapSt h s) = (run p s).map (mapSt h) := by
  induction p generalizing s with
  | nil => rfl
  | cons i is ih =>
    simp only [List.map_cons, run, step_hom H]
    cases step s i with
    | none => rfl
    | some s' => exact ih s'

theorem map_instIns_of_noXV (σ : Nat → Bool) (p : List Ins) (hp : p.all (fun i => !isXV i) = true) :
    p.map (instIns σ) = p := by
  induction p with
  | nil => rfl
  | cons i is ih =>
    rw [List.all_cons, Bool.and_eq_true] at hp
    rw [List.map_cons, ih hp.2]
    cases i <;> first | rfl | cases hp.1

theorem xor_xor_xor_comm (a b c d : Nat) : (a ^^^ b) ^^^ (c ^^^ d) = (a ^^^ c) ^^^ (b ^^^ d) := by
  rw [Nat.xor_assoc, ← Nat.xor_assoc b, Nat.xor_comm b c, Nat.xor_assoc c, ← Nat.xor_assoc a]

theorem xor_xor_self (a b : Nat) : a ^^^ b ^^^ b = a := by
  rw [Nat.xor_assoc, Nat.xor_self, Nat.xor_zero]

theorem xor_cancel_mid (x1 x2 c : Nat) : (x1 ^^^ c) ^^^ (x2 ^^^ c) = x1 ^^^ x2 := by
  rw [Nat.xor_assoc, Nat.xor_comm x2 c, ← Nat.xor_assoc c, Nat.xor_self, Nat.zero_xor]

/-- the algebra of one round: ancilla `a ⊕ [b]·(x₁⊕x₂)` plus its two neighbours (each `x ⊕ c`) is
    `a ⊕ [¬b]·(x₁⊕x₂)` -/
theorem xor_alg_round (A x1 x2 c : Nat) :
    (A ^^^ (x1 ^^^ x2)) ^^^ (x1 ^^^ c) ^^^ (x2 ^^^ c) = A ∧ A ^^^ (x1 ^^^ c) ^^^ (x2 ^^^ c) = A ^^^ (x1 ^^^ x2) := by
  constructor <;>
  · apply Nat.eq_of_testBit_eq
    intro i
    simp only [Nat.testBit_xor]
    cases A.testBit i <;> cases x1.testBit i <;> cases x2.testBit i <;> cases c.testBit i <;> rfl

def bitSum (w : Nat → Nat) (nb f : Nat) : Nat :=
  (List.range nb).foldl (fun acc i => acc ^^^ (if f.testBit i then w i else 0)) 0

theorem bitSum_succ (w : Nat → Nat) (n f : Nat) :
    bitSum w (n + 1) f = bitSum w n f ^^^ (if f.testBit n then w n else 0) := by
  simp [bitSum, List.range_succ, List.foldl_append]

theorem bitSum_xor (w : Nat → Nat) (nb a b : Nat) :
    bitSum w nb (a ^^^ b) = bitSum w nb a ^^^ bitSum w nb b := by
  induction nb with
  | zero => simp [bitSum]
  | succ n ih =>
    rw [bitSum_succ, bitSum_succ, bitSum_succ, ih, Nat.testBit_xor, xor_xor_xor_comm]
    cases a.testBit n <;> cases b.testBit n <;> simp

theorem bitSum_zero (w : Nat → Nat) (nb : Nat) : bitSum w nb 0 = 0 := by
  induction nb with
  | zero => rfl
  | succ n ih => rw [bitSum_succ, ih]; simp

theorem bitSum_stable (w : Nat → Nat) (f n m : Nat) (hf : f < 2 ^ n) (hnm : n ≤ m) :
    bitSum w m f = bitSum w n f := by
  induction m with
  | zero => rw [Nat.le_zero.mp hnm]
  | succ k ih =>
    by_cases hk : n ≤ k
    · have hbit : f.testBit k = false :=
        Nat.testBit_lt_two_pow (Nat.lt_of_lt_of_le hf (Nat.pow_le_pow_right (by omega) hk))
      rw [bitSum_succ, ih hk, hbit]
      simp
    · rw [show n = k + 1 by omega]

theorem bitSum_pow (w : Nat → Nat) (nb k : Nat) (hk : k < nb) : bitSum w nb (2 ^ k) = w k := by
  rw [bitSum_stable w (2 ^ k) (k + 1) nb (Nat.pow_lt_pow_right (by omega) (by omega)) (by omega)]
  have hz : ∀ m, m ≤ k → bitSum w m (2 ^ k) = 0 := by
    intro m
    induction m with
    | zero => intro _; rfl
    | succ m ihm =>
      intro hm
      have hb : (2 ^ k).testBit m = false := by
        rw [Nat.testBit_two_pow]; simp; omega
      rw [bitSum_succ, ihm (by omega), hb]
      simp
  rw [bitSum_succ, hz k (Nat.le_refl k), Nat.testBit_two_pow]
  simp

theorem bitSum_xorHom (w : Nat → Nat) (nb : Nat) (h0 : w 0 = 1) (hnb : 0 < nb) : XorHom (bitSum w nb) :=
  ⟨bitSum_xor w nb, bitSum_zero w nb, (bitSum_pow w nb 0 hnb).trans h0⟩

/-! ### instantiation of the variables is such a sum, hence linear -/

theorem evalBounded_succ (σ : Nat → Bool) (n f : Nat) :
    evalBounded σ (n + 1) f = (evalBounded σ n f ^^ (f.testBit n && (n == 0 || σ (n - 1)))) := by
  simp [evalBounded, List.range_succ, List.foldl_append]

theorem evalBounded_zero_bound (σ : Nat → Bool) (f : Nat) : evalBounded σ 0 f = false := rfl

theorem evalBounded_toNat (σ : Nat → Bool) (nb f : Nat) :
    (evalBounded σ nb f).toNat = bitSum (fun i => (i == 0 || σ (i - 1)).toNat) nb f := by
  induction nb with
  | zero => rfl
  | succ n ih =>
    rw [evalBounded_succ, bitSum_succ, ← ih]
    cases evalBounded σ n f <;> cases f.testBit n <;> cases (n == 0 || σ (n - 1)) <;> rfl

theorem evalNat_eq_bitSum (σ : Nat → Bool) (f n : Nat) (hf : f < 2 ^ n) :
    evalNat σ f = bitSum (fun i => (i == 0 || σ (i - 1)).toNat) n f := by
  rw [evalNat, evalForm, evalBounded_toNat,
    ← bitSum_stable _ f (f.log2 + 1) (max (f.log2 + 1) n) Nat.lt_log2_self (Nat.le_max_left _ _),
    bitSum_stable _ f n (max (f.log2 + 1) n) hf (Nat.le_max_right _ _)]

theorem evalNat_xor (σ : Nat → Bool) (a b : Nat) :
    evalNat σ (a ^^^ b) = evalNat σ a ^^^ evalNat σ b := by
  let N := max (a.log2 + 1) (b.log2 + 1)
  have ha : a < 2 ^ N := Nat.lt_of_lt_of_le Nat.lt_log2_self (Nat.pow_le_pow_right (by omega) (Nat.le_max_left _ _))
  have hb : b < 2 ^ N := Nat.lt_of_lt_of_le Nat.lt_log2_self (Nat.pow_le_pow_right (by omega) (Nat.le_max_right _ _))
  rw [evalNat_eq_bitSum σ _ N (Nat.xor_lt_two_pow ha hb), evalNat_eq_bitSum σ a N ha, evalNat_eq_bitSum σ b N hb,
    bitSum_xor]

theorem evalNat_zero (σ : Nat → Bool) : evalNat σ 0 = 0 := evalNat_eq_bitSum σ 0 0 (by decide)

theorem evalNat_one (σ : Nat → Bool) : evalNat σ 1 = 1 :=
  (evalNat_eq_bitSum σ 1 1 (by decide)).trans (bitSum_pow _ 1 0 (by decide))

theorem evalNat_var (σ : Nat → Bool) (v : Nat) : evalNat σ (var v) = (σ v).toNat :=
  (evalNat_eq_bitSum σ _ (v + 2) (Nat.pow_lt_pow_right (by omega) (by omega))).trans
    ((bitSum_pow _ (v + 2) (v + 1) (by omega)).trans (by simp))

theorem evalNat_formHom (σ : Nat → Bool) : FormHom (evalNat σ) σ :=
  ⟨⟨evalNat_xor σ, evalNat_zero σ, evalNat_one σ⟩, evalNat_var σ⟩

theorem run_dropShift (p : List Ins) (s : St) :
    run (p.filter (fun i => !isShift i)) s = run p s := by
  induction p generalizing s with
  | nil => rfl
  | cons i is ih =>
    cases hi : isShift i with
    | true =>
      have hs : step s i = some s := by cases i <;> first | rfl | cases hi
      simp only [List.filter, hi, Bool.not_true, run, hs]
      exact ih s
    | false =>
      simp only [List.filter, hi, Bool.not_false, run]
      cases step s i with
      | none => rfl
      | some s' => exact ih s'

def repeatBlock (k : Nat) (B : List Ins) : List Ins := (List.replicate k B).flatten

theorem repeatBlock_succ (k : Nat) (B : List Ins) : repeatBlock (k + 1) B = B ++ repeatBlock k B := by
  simp [repeatBlock, List.replicate_succ]

theorem par_succ (r : Nat) : par (r + 1) = !par r := by
  unfold par
  rcases Nat.mod_two_eq_zero_or_one r with h | h <;> simp [Nat.add_mod, h]

/-- the rounds' outcomes, most recent first: round r emits `c (par r)` -/
def revRounds (c : Bool → List Nat) : Nat → List Nat
  | 0 => []
  | r + 1 => c (par (r + 1)) ++ revRounds c r

/-- Period-2 induction.  `q b` = qubit state after a number of rounds of parity `b`; round r emits `c (par r)`.
    If one pass of the block `B` from (state of parity b, last two rounds on top of the record) appends the next
    round and emits `n` zero detectors, then k passes append k rounds, for any older record. -/
theorem run_repeat (B : List Ins) (q : Bool → List Q) (c : Bool → List Nat) (n : Nat)
    (hB : ∀ b, run B ⟨q b, c b ++ c (!b), [], 0⟩ = some ⟨q (!b), c (!b) ++ (c b ++ c (!b)), List.replicate n 0, 0⟩)
    (k r : Nat) (T D : List Nat) (o : Nat) :
    run (repeatBlock k B) ⟨q (par (r + 2)), revRounds c (r + 2) ++ T, D, o⟩ =
      some ⟨q (par (r + 2 + k)), revRounds c (r + 2 + k) ++ T, List.replicate (k * n) 0 ++ D, o⟩ := by
  induction k generalizing r D with
  | zero => simp [repeatBlock, run]
  | succ k ih =>
    rw [repeatBlock_succ]
    have hfr := run_frame (revRounds c r ++ T) D o (hB (par (r + 2)))
    have hstart : extend ⟨q (par (r + 2)), c (par (r + 2)) ++ c (!par (r + 2)), [], 0⟩ (revRounds c r ++ T) D o
        = ⟨q (par (r + 2)), revRounds c (r + 2) ++ T, D, o⟩ := by
      simp [extend, revRounds, par_succ, List.append_assoc]
    rw [hstart] at hfr
    rw [run_append_some hfr]
    have hnext : extend ⟨q (!par (r + 2)), c (!par (r + 2)) ++ (c (par (r + 2)) ++ c (!par (r + 2))), List.replicate n 0, 0⟩
        (revRounds c r ++ T) D o
        = ⟨q (par (r + 1 + 2)), revRounds c (r + 1 + 2) ++ T, List.replicate n 0 ++ D, o⟩ := by
      simp [extend, revRounds, par_succ, List.append_assoc]
    rw [hnext, ih (r + 1) (List.replicate n 0 ++ D)]
    have e1 : r + 1 + 2 + k = r + 2 + (k + 1) := by omega
    have e2 : List.replicate (k * n) 0 ++ (List.replicate n 0 ++ D) = List.replicate ((k + 1) * n) 0 ++ D := by
      rw [← List.append_assoc, List.replicate_append_replicate, Nat.succ_mul]
    rw [e1, e2]

end Qco.StimSem
