import QcoVerif.Lemmas.DefinedBuild
import QcoVerif.Lemmas.DefinedCopy
import QcoVerif.Lemmas.CopyNestedExample
/-
  C01, definedness: a worked example.  The build program

      c = DeclarativeCircuit(); s = DeclarativeCircuit(repetitions 2)
      x = Rx180(0); s.add(x);  y = Ry90(0); s.add(y)            -- y FOLLOWED_BY x (implicit)
      a = Rx90(1); c.add(a);   c.add(s)                         -- the sub-circuit is a node of c
      d = DispersiveMeasure(1, relation=RelationLink(a, JOINED_END)); c.add(d)
      b = CPhase(0, 1); c.add(b)                                -- b FOLLOWED_BY s (implicit)

  is evaluated with the model's own builder (`newCircuit / newLink / newOp / add`) to a literal heap `dxLit`;
  the literal heap is closed and ranked (checked by evaluation), hence every time is defined with the driver's
  fuel, and — together with `schedule_unique` — the times are the ones listed in `dxStartT` / `dxDurT` (Properties/C01.lean).
  (The first four lines are `nxBuild4` of Lemmas/CopyNestedExample.lean.)
-/
namespace Qco.Defined

open Qco Qco.C10

def dxL5 : Link := { refs := [4], rel := .je }
def dxD : Op := { cls := .measure, qs := [1], dur := .glob .ro, link := 5 }

/-- the build program (continuing `nxBuild4`). -/
def dxWorld : World :=
  let w := nxBuild4
  let (w, l4) := w.newLink { refs := [4], rel := .je }
  let (w, d) := w.newOp { cls := .measure, qs := [1], dur := .glob .ro, link := l4 }
  let w := w.add 0 d
  let (w, l5) := w.newLink {}
  let (w, b) := w.newOp { cls := .cphase, qs := [0, 1], dur := .glob .fl, link := l5 }
  w.add 0 b

def dxS5 : World :=
  { ops := #[{ nxC with graph := [⟨4, none, [0]⟩, ⟨1, none, [1]⟩] }, { nxS with graph := nxSg }, nxX, nxY, nxA, dxD],
    links := #[{}, {}, {}, { refs := [2] }, {}, dxL5] }
def dxS5' : World :=
  { ops := #[{ nxC with graph := [⟨4, none, [0]⟩, ⟨1, none, [1]⟩, ⟨5, some 4, [0, 0]⟩] }, { nxS with graph := nxSg },
             nxX, nxY, nxA, dxD],
    links := #[{}, {}, {}, { refs := [2] }, {}, dxL5] }
def dxS6 : World :=
  { ops := #[{ nxC with graph := [⟨4, none, [0]⟩, ⟨1, none, [1]⟩, ⟨5, some 4, [0, 0]⟩] }, { nxS with graph := nxSg },
             nxX, nxY, nxA, dxD, { cls := .cphase, qs := [0, 1], dur := .glob .fl, link := 6 }],
    links := #[{}, {}, {}, { refs := [2] }, {}, dxL5, {}] }
/-- the heap the build program produces. -/
def dxLit : World :=
  { ops := #[{ nxC with graph := nxCg }, { nxS with graph := nxSg }, nxX, nxY, nxA, dxD,
             { cls := .cphase, qs := [0, 1], dur := .glob .fl, link := 7 }],
    links := #[{}, {}, {}, { refs := [2] }, {}, dxL5, {}, { refs := [1] }] }

theorem dxStep5 : dxS5.add 0 5 = dxS5' := by
  rw [add_child_eq dxS5 0 5 4 (by decide) (by decide) (by decide) (by decide)]
  rfl

theorem dxStep6 : dxS6.add 0 6 = dxLit := by
  have hs : dxS6.chansOf 1 = [⟨0, .mw⟩] := by
    rw [chansOf_flatcomp dxS6 1 (by decide) (by
      show ∀ n ∈ listing nxSg, _
      rw [nxSg_listing]; decide)]
    show dedupChans ((listing nxSg).flatMap _) = _
    rw [nxSg_listing]; rfl
  have hl : listing (dxS6.op 0).graph = [4, 1, 5] := by rw [listing_lit _ (by decide)]; rfl
  have h5 : dxS6.chansOf 5 = [⟨1, .ro⟩] := by rw [chansOf_leaf dxS6 5 (by decide)]; rfl
  have h6 : dxS6.chansOf 6 = [⟨0, .fl⟩, ⟨0, .mw⟩, ⟨1, .fl⟩, ⟨1, .mw⟩] := by rw [chansOf_leaf dxS6 6 (by decide)]; rfl
  rw [add_relink_eq dxS6 0 6 1 (by decide) (by
    unfold World.leafAtAny
    rw [hl, h6]
    simp [h5, hs, ChId.matches])]
  rfl

theorem dxWorld_eq : dxWorld = dxLit := by
  unfold dxWorld
  rw [nxBuild4_eq]
  show ((dxS5.add 0 5).newLink {}).1.newOp _ |>.1.add 0 6 = dxLit
  rw [dxStep5]
  exact dxStep6

/-- the explicit rank function: `x, a ↦ 0`, `y, d ↦ 1`, `s ↦ 2`, `b ↦ 3`, `c ↦ 4`. -/
def dxRank : List Nat := [4, 2, 0, 1, 0, 1, 3]

theorem dxLit_ranked : Ranked dxLit (fun o => dxRank.getD o 0) :=
  ranked_of_check dxLit dxRank (by decide) (by decide +kernel)

theorem dxLit_closed : Closed dxLit := closed_of_check dxLit (by decide +kernel)

theorem dxWorld_ranked : Ranked dxWorld (fun o => dxRank.getD o 0) := by rw [dxWorld_eq]; exact dxLit_ranked

theorem dxWorld_closed : Closed dxWorld := by rw [dxWorld_eq]; exact dxLit_closed

end Qco.Defined
