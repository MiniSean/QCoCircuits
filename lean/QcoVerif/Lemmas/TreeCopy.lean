import QcoVerif.Lemmas.TreeHeap
/-
  The general copy lemma: `World.copyObj` on a tree-shaped heap returns a FRESH tree with the same count-expanded
  multiset of leaf signatures and the same repetition strategy, and writes no object that existed (`copyObj_tree`).
  Core Lean only.
-/
namespace Qco

/-- what `copyObj` returns on a tree `o` of depth ≤ `f`: a fresh tree `cp` (the first new object), nothing old written,
    same expansion, same kind and repetition strategy. -/
structure TreeCopySpec (w : World) (f o : Nat) (w' : World) (cp : Nat) : Prop where
  id : cp = w.ops.size
  size : w.ops.size < w'.ops.size
  old : ∀ j, j < w.ops.size → w'.op j = w.op j
  rreg : w'.rreg = w.rreg
  tree : TreeBelow w' f cp
  fresh : ∀ j ∈ w'.below f cp, w.ops.size ≤ j
  kind : (w'.op cp).isComp = (w.op o).isComp
  rep : (w.op o).isComp = true → (w'.op cp).rep = (w.op o).rep
  expand : (w'.expand f cp).Perm (w.expand f o)
  content : ∀ f', f = f' + 1 → (w.op o).isComp = true → (w'.content f' cp).Perm (w.content f' o)
  shape : ∀ cnt : Rep → Nat, (w'.expandWith cnt f cp).Perm (w.expandWith cnt f o)

theorem TreeCopySpec.noWrite {w w' : World} {f o cp : Nat} (h : TreeCopySpec w f o w' cp) : NoWrite w w' :=
  ⟨Nat.le_of_lt h.size, h.rreg, h.old⟩

theorem copyLeaf_tree (w : World) (f o : Nat) (lk : Lookup) (ht : TreeBelow w (f + 1) o)
    (hl : (w.op o).isComp = false) : TreeCopySpec w (f + 1) o (w.copyLeaf o lk).1 (w.copyLeaf o lk).2 := by
  obtain ⟨c1, c2, hnw, l, r, hnew⟩ := copyLeaf_spec w o lk
  rw [c1]
  generalize (w.copyLeaf o lk).1 = w' at c2 hnw hnew
  have hleaf' : (w'.op w.ops.size).isComp = false := by
    rw [hnew]; exact (copyFields_isComp (w.op o)).trans hl
  have hsig : (w'.op w.ops.size).sig = (w.op o).sig := by rw [hnew]; exact ht.stable hl
  refine ⟨rfl, by omega, hnw.old, hnw.rreg, ?_, ?_, by rw [hleaf', hl], (fun h => by rw [hl] at h; cases h), ?_,
    (fun f' _ h => by rw [hl] at h; cases h), ?_⟩
  · refine TreeBelow.leaf_intro (by omega) hleaf' ?_
    rw [hnew]
    exact copyFields_idem (w.op o) l r
  · intro j hj
    rw [below_leaf _ f _ hleaf', List.mem_singleton] at hj
    omega
  · rw [expand_leaf _ f _ hleaf', expand_leaf _ f _ hl, hsig]
  · intro cnt
    rw [expandWith_leaf _ cnt f _ hleaf', expandWith_leaf w cnt f o hl, hsig]

/-- invariant of the copy loop: `res = w0.ops.size` is the new composite, `done` the nodes of the original copied so
    far; the nodes of `res` form a forest of fresh trees whose expansions are those of `done`. -/
structure TreeCopyInv (w0 : World) (res f : Nat) (rep : Rep) (wi : World) (done : List Nat) : Prop where
  size : res < wi.ops.size
  old : ∀ j, j < res → wi.op j = w0.op j
  rreg : wi.rreg = w0.rreg
  cls : (wi.op res).isComp = true
  rep : (wi.op res).rep = rep
  forest : Forest wi f (wi.kids res)
  range : ∀ n ∈ wi.kids res, ∀ j ∈ wi.below f n, res < j
  perm : ((wi.kids res).flatMap (wi.expand f)).Perm (done.flatMap (w0.expand f))
  permW : ∀ cnt : Rep → Nat,
    ((wi.kids res).flatMap (wi.expandWith cnt f)).Perm (done.flatMap (w0.expandWith cnt f))

/-- one round of the copy loop: the node `n` has been copied (`w1`, `cp`), the copy is added to the new composite (on `w2`,
    which is `w1` up to the collision counter). -/
theorem copyInv_step (w0 : World) (res f : Nat) (rep : Rep) (wi : World) (done : List Nat) (n : Nat)
    (hres : res = w0.ops.size) (hi : TreeCopyInv w0 res f rep wi done) (hn : TreeBelow w0 f n)
    (w1 : World) (cp : Nat) (hcs : TreeCopySpec wi f n w1 cp)
    (w2 : World) (hops : w2.ops = w1.ops) (hrr : w2.rreg = w1.rreg) :
    TreeCopyInv w0 res f rep (w2.add res cp) (done ++ [n]) := by
  have hnw12 : NoWrite w1 w2 := NoWrite.of_ops hops hrr
  have hnw : NoWrite wi w2 := hcs.noWrite.trans hnw12
  have hres2 : res < w2.ops.size := Nat.lt_of_lt_of_le hi.size hnw.size
  have hresop : w2.op res = wi.op res := hnw.old res hi.size
  have hK : w2.kids res = wi.kids res := by unfold World.kids; rw [hresop]
  -- in `w2`: the forest of the nodes copied so far, the new tree, and (in `wi`) the node `n` of the original
  obtain ⟨hF2, hk2⟩ := hnw.keeps_forest hi.forest
  obtain ⟨hFcp, hkcp⟩ := hnw12.keeps_forest (Forest.single hcs.tree)
  have hkcp := hkcp cp (List.mem_singleton.mpr rfl)
  have hkn := ((⟨hres ▸ Nat.le_of_lt hi.size, hi.rreg, hres ▸ hi.old⟩ : NoWrite w0 wi).keeps_forest
    (Forest.single hn)).2 n (List.mem_singleton.mpr rfl)
  have hKlt : ∀ a ∈ wi.kids res, ∀ j ∈ wi.below f a, j < wi.ops.size :=
    fun a ha => below_lt wi f a (hi.forest.tree a ha)
  have hcpfresh : ∀ j ∈ w2.below f cp, wi.ops.size ≤ j := fun j hj => hcs.fresh j (hkcp.1 ▸ hj)
  have ha := add_appends w2 res cp hres2
  obtain ⟨k1, k2, k3⟩ := ha.forest (hK ▸ hF2) hFcp
    (by
      intro a ha' hmem
      rcases List.mem_append.mp ha' with ha' | ha'
      · rw [hK] at ha'
        rw [(hk2 a ha').1] at hmem
        exact Nat.lt_irrefl _ (hi.range a ha' res hmem)
      · rw [List.mem_singleton.mp ha'] at hmem
        have := hcpfresh res hmem
        have := hi.size
        omega)
    (by
      intro a ha' b hb j hja hjb
      rw [hK] at ha'
      rw [(hk2 a ha').1] at hja
      rw [List.mem_singleton.mp hb] at hjb
      have := hKlt a ha' j hja
      have := hcpfresh j hjb
      omega)
  rw [hK] at k1 k2 k3
  -- the expansions of the nodes of the new composite, for `expand` and for every `expandWith cnt`
  have key : ∀ E : World → Nat → List Sig, (∀ a ∈ wi.kids res ++ [cp], E (w2.add res cp) a = E w2 a) →
      (∀ a ∈ wi.kids res, E w2 a = E wi a) → E w2 cp = E w1 cp → E wi n = E w0 n → (E w1 cp).Perm (E wi n) →
      ((wi.kids res).flatMap (E wi)).Perm (done.flatMap (E w0)) →
      (((w2.add res cp).kids res).flatMap (E (w2.add res cp))).Perm ((done ++ [n]).flatMap (E w0)) := by
    intro E e3 e2 ecp en hp hdone
    rw [k1, List.flatMap_append, List.flatMap_append,
      flatMap_congr' (fun a ha' => (e3 a (List.mem_append_left _ ha')).trans (e2 a ha'))]
    refine hdone.append ?_
    simp only [List.flatMap_cons, List.flatMap_nil, List.append_nil]
    rw [e3 cp (List.mem_append_right _ (List.mem_singleton.mpr rfl)), ecp, ← en]
    exact hp
  refine ⟨by rw [ha.size]; exact hres2, ?_, by rw [ha.rreg, hnw.rreg]; exact hi.rreg,
    by rw [ha.isComp, hresop]; exact hi.cls, by rw [ha.rep, hresop]; exact hi.rep, k1 ▸ k2, ?_, ?_, ?_⟩
  · intro j hj
    have := hcs.id
    have := hi.size
    rw [add_op_other w2 res cp j (by omega) (by omega), hnw.old j (by omega)]
    exact hi.old j hj
  · intro a ha' j hj
    rw [k1] at ha'
    rw [(k3 a ha').1] at hj
    rcases List.mem_append.mp ha' with ha' | ha'
    · rw [(hk2 a ha').1] at hj; exact hi.range a ha' j hj
    · rw [List.mem_singleton.mp ha'] at hj
      have := hcpfresh j hj
      have := hi.size
      omega
  · exact key (fun v => v.expand f) (fun a ha' => (k3 a ha').2.1) (fun a ha' => (hk2 a ha').2.1) hkcp.2.1 hkn.2.1
      hcs.expand hi.perm
  · intro cnt
    exact key (fun v => v.expandWith cnt f) (fun a ha' => (k3 a ha').2.2 cnt) (fun a ha' => (hk2 a ha').2.2 cnt)
      (hkcp.2.2 cnt) (hkn.2.2 cnt) (hcs.shape cnt) (hi.permW cnt)

/-- **the general copy lemma**: any lookup, any fuel ≥ `f`. -/
theorem copyObj_tree : ∀ (f : Nat) (w : World) (o : Nat) (lk : Lookup) (g : Nat), TreeBelow w f o → f ≤ g →
    TreeCopySpec w f o (w.copyObj g o lk).1 (w.copyObj g o lk).2.1 := by
  intro f
  induction f with
  | zero => intro w o lk g h _; exact h.elim
  | succ f ih =>
    intro w o lk g ht hg
    obtain ⟨g, rfl⟩ : ∃ g', g = g' + 1 := ⟨g - 1, by omega⟩
    by_cases hc : (w.op o).isComp = true
    · obtain ⟨w1, l, ho1, hr1, hcp⟩ := copyObj_comp w g o lk hc
      rw [hcp]
      dsimp only
      obtain ⟨_, hsz, hnw, hnew⟩ := newOp_on w w1 { cls := .comp, link := l, rep := (w.op o).rep } ho1 hr1
      have hp : (listing (w.op o).graph).Perm (w.kids o) := listing_perm _
      have hfin : TreeCopyInv w w.ops.size f (w.op o).rep
          ((listing (w.op o).graph).foldl (cpStep g w.ops.size)
            ((w1.newOp { cls := .comp, link := l, rep := (w.op o).rep }).1, lk)).1 (listing (w.op o).graph) := by
        refine foldl_inv_prefix
          (fun done (acc : World × Lookup) => TreeCopyInv w w.ops.size f (w.op o).rep acc.1 done) ?_ ?_
        · intro done n acc hn hi
          have hnt : TreeBelow w f n := ht.kid hc (hp.mem_iff.mp hn)
          have hni : TreeBelow acc.1 f n :=
            ((⟨Nat.le_of_lt hi.size, hi.rreg, hi.old⟩ : NoWrite w acc.1).keeps hnt).1
          obtain ⟨w2, hstep, ho2, _, hr2⟩ := cpStep_fst g w.ops.size acc n
          rw [hstep]
          exact copyInv_step w _ f _ acc.1 done n rfl hi hnt _ _ (ih acc.1 n acc.2 g hni (by omega)) w2 ho2 hr2
        · have hk : (w1.newOp { cls := .comp, link := l, rep := (w.op o).rep }).1.kids w.ops.size = [] := by
            unfold World.kids; rw [hnew]; rfl
          refine ⟨by rw [hsz]; exact Nat.lt_succ_self _, hnw.old, hnw.rreg, by rw [hnew]; rfl, by rw [hnew], ?_, ?_, ?_, ?_⟩
          · rw [hk]; exact Forest.nil _ _
          · intro n hn; rw [hk] at hn; cases hn
          · rw [hk]; exact List.Perm.refl _
          · intro cnt; rw [hk]; exact List.Perm.refl _
      generalize ((listing (w.op o).graph).foldl (cpStep g w.ops.size)
        ((w1.newOp { cls := .comp, link := l, rep := (w.op o).rep }).1, lk)).1 = wf at hfin
      have hcontent : (wf.content f w.ops.size).Perm (w.content f o) :=
        hfin.perm.trans (List.Perm.flatMap_right _ hp)
      refine ⟨rfl, hfin.size, hfin.old, hfin.rreg, ?_, ?_, by rw [hfin.cls, hc], fun _ => hfin.rep, ?_,
        (fun f' hf' _ => by obtain rfl : f = f' := (by omega); exact hcontent), ?_⟩
      · exact TreeBelow.of_forest hfin.size hfin.cls hfin.forest
          (fun n hn hmem => Nat.lt_irrefl _ (hfin.range n hn _ hmem))
      · intro j hj
        rw [mem_below_comp wf f _ j hfin.cls] at hj
        rcases hj with rfl | ⟨n, hn, hj⟩
        · exact Nat.le_refl _
        · exact Nat.le_of_lt (hfin.range n hn j hj)
      · rw [expand_comp wf f _ hfin.cls, expand_comp w f o hc, hfin.rep]
        have : wf.repCount (w.op o).rep = w.repCount (w.op o).rep := by
          unfold World.repCount; rw [hfin.rreg]
        rw [this]
        exact Perm.repeatList _ hcontent
      · intro cnt
        rw [expandWith_comp wf cnt f _ hfin.cls, expandWith_comp w cnt f o hc, hfin.rep]
        exact Perm.repeatList _ ((hfin.permW cnt).trans (List.Perm.flatMap_right _ hp))
    · have hl : (w.op o).isComp = false := by simpa using hc
      rw [copyObj_leaf w g o lk hl]
      exact copyLeaf_tree w f o lk ht hl

/-- `copy()` without a lookup. -/
theorem copy_tree (w : World) (f o : Nat) (ht : TreeBelow w f o) (hf : f ≤ w.depthFuel) :
    TreeCopySpec w f o (w.copy o).1 (w.copy o).2 := by
  rw [copy_eq]
  exact copyObj_tree f w o [] w.depthFuel ht hf

end Qco
