import QcoVerif.Model.Timing
import QcoVerif.Lemmas.Graph
import QcoVerif.Lemmas.Lists
/-
  The specification evaluator `evStart/evEnd/evDur/evLeadSpan/evInterval/evRef` (QcoVerif/Model/Timing.lean) as the
  proofs use it: one equation per function, results do not depend on the fuel once defined (so the fuel-free readings
  `Start`, `End`, `DurV`, … are functional), durations are non-negative when the leaf durations are, bounds for
  `minOf`/`maxOf`/`pickLatest`.  The names are `C10.…`: the statements of C10 (no channel is booked twice) are written with
  these readings throughout; C01 and C04 open the namespace.
-/
namespace Qco.C10

open Qco

/-- `pickLatest` is the member a group (latest-of) link picks; the first one wins ties. -/
theorem pickLatest_spec (best : Nat × Int) (xs : List (Nat × Int)) :
    (pickLatest best xs = best ∨ pickLatest best xs ∈ xs) ∧
    best.2 ≤ (pickLatest best xs).2 ∧ ∀ x ∈ xs, x.2 ≤ (pickLatest best xs).2 :=
  foldl_pick (fun (x b : Nat × Int) => x.2 > b.2) (fun a b => a.2 ≤ b.2) (fun _ => Int.le_refl _)
    (fun _ _ _ => Int.le_trans) (fun _ _ h => Int.le_of_lt h) (fun _ _ h => Int.not_lt.mp h) xs best

theorem le_maxOf {l : List Int} {x : Int} (hx : x ∈ l) : x ≤ maxOf l := by
  cases l with
  | nil => cases hx
  | cons a as =>
    cases hx with
    | head => exact (foldl_max_spec as x).2.1
    | tail _ hx' => exact (foldl_max_spec as a).2.2 x hx'

theorem minOf_le {l : List Int} {x : Int} (hx : x ∈ l) : minOf l ≤ x := by
  cases l with
  | nil => cases hx
  | cons a as =>
    cases hx with
    | head => exact (foldl_min_spec as x).2.1
    | tail _ hx' => exact (foldl_min_spec as a).2.2 x hx'

theorem maxOf_mem {l : List Int} (h : l ≠ []) : maxOf l ∈ l := by
  cases l with
  | nil => exact absurd rfl h
  | cons a as =>
    show as.foldl _ a ∈ a :: as
    rcases (foldl_max_spec as a).1 with h1 | h1
    · rw [h1]; exact List.mem_cons_self
    · exact List.mem_cons_of_mem _ h1

theorem minOf_mem {l : List Int} (h : l ≠ []) : minOf l ∈ l := by
  cases l with
  | nil => exact absurd rfl h
  | cons a as =>
    show as.foldl _ a ∈ a :: as
    rcases (foldl_min_spec as a).1 with h1 | h1
    · rw [h1]; exact List.mem_cons_self
    · exact List.mem_cons_of_mem _ h1

theorem minOf_eq {l : List Int} {m : Int} (hm : m ∈ l) (hle : ∀ x ∈ l, m ≤ x) : minOf l = m := by
  have h1 : minOf l ≤ m := minOf_le hm
  have h2 : m ≤ minOf l := hle _ (minOf_mem (List.ne_nil_of_mem hm))
  omega

theorem maxOf_eq {l : List Int} {m : Int} (hm : m ∈ l) (hle : ∀ x ∈ l, x ≤ m) : maxOf l = m := by
  have h1 : m ≤ maxOf l := le_maxOf hm
  have h2 : maxOf l ≤ m := hle _ (maxOf_mem (List.ne_nil_of_mem hm))
  omega

/-! One step of each of the six mutually recursive functions, as "the answer is `v` iff …" — the only place where the
`do` blocks of Model/Timing.lean are opened. -/

theorem evEnd_succ_some {w : World} {f o : Nat} {e : Int} :
    evEnd w (f+1) o = some e ↔ ∃ s d, evStart w f o = some s ∧ evDur w f o = some d ∧ s + d = e := by
  rw [evEnd.eq_2]
  simp only [Option.bind_eq_bind, Option.bind_eq_some_iff, Option.some.injEq]
  exact ⟨fun ⟨s, hs, d, hd, h⟩ => ⟨s, d, hs, hd, h⟩, fun ⟨s, d, hs, hd, h⟩ => ⟨s, hs, d, hd, h⟩⟩

theorem evDur_succ_some {w : World} {f o : Nat} {d : Int} :
    evDur w (f+1) o = some d ↔ ∃ l, evLeadSpan w f o = some (l, d) := by
  rw [evDur.eq_2]
  simp only [Option.map_eq_some_iff, Prod.exists, exists_eq_right]

theorem evInterval_succ_some {w : World} {f o : Nat} {iv : Int × Int} :
    evInterval w (f+1) o = some iv ↔
      ∃ s l d, evStart w f o = some s ∧ evLeadSpan w f o = some (l, d) ∧ (s - l, s - l + d) = iv := by
  rw [evInterval.eq_2]
  simp only [Option.bind_eq_bind, Option.bind_eq_some_iff, Option.some.injEq, Prod.exists]
  exact ⟨fun ⟨s, hs, l, d, hl, h⟩ => ⟨s, l, d, hs, hl, h⟩, fun ⟨s, l, d, hs, hl, h⟩ => ⟨s, hs, l, d, hl, h⟩⟩

theorem evStart_succ_some {w : World} {f o : Nat} {s : Int} :
    evStart w (f+1) o = some s ↔
      ∃ d r, evDur w f o = some d ∧ evRef w f (w.op o).link = some r ∧
        match r with
        | none => linkStart (w.lnk (w.op o).link).rel none d = s
        | some r' => ∃ sr er, evStart w f r' = some sr ∧ evEnd w f r' = some er ∧
            linkStart (w.lnk (w.op o).link).rel (some (sr, er)) d = s := by
  rw [evStart.eq_2]
  simp only [Option.bind_eq_bind, Option.bind_eq_some_iff]
  constructor
  · rintro ⟨d, hd, r, hr, h⟩
    refine ⟨d, r, hd, hr, ?_⟩
    cases r with
    | none => simpa using h
    | some r' =>
      simp only [Option.bind_eq_some_iff, Option.some.injEq] at h
      obtain ⟨sr, hsr, er, her, h⟩ := h
      exact ⟨sr, er, hsr, her, h⟩
  · rintro ⟨d, r, hd, hr, h⟩
    refine ⟨d, hd, r, hr, ?_⟩
    cases r with
    | none => simpa using h
    | some r' =>
      obtain ⟨sr, er, hsr, her, h⟩ := h
      simp only [Option.bind_eq_some_iff, Option.some.injEq]
      exact ⟨sr, hsr, er, her, h⟩

theorem evLeadSpan_succ_some {w : World} {f o : Nat} {v : Int × Int} :
    evLeadSpan w (f+1) o = some v ↔
      if (w.op o).isComp then
        if (w.op o).graph.isEmpty then (0, 0) = v
        else ∃ hs ivs, (heads (w.op o).graph).mapM (fun n => evStart w f n) = some hs ∧
          (listing (w.op o).graph).mapM (fun n => evInterval w f n) = some ivs ∧ leadSpan hs ivs = v
      else (0, w.leafDur (w.op o).dur) = v := by
  rw [evLeadSpan.eq_2]
  split
  · split
    · simp
    · simp only [Option.bind_eq_bind, Option.bind_eq_some_iff, Option.some.injEq]
      exact ⟨fun ⟨hs, h1, ivs, h2, h⟩ => ⟨hs, ivs, h1, h2, h⟩, fun ⟨hs, ivs, h1, h2, h⟩ => ⟨hs, h1, ivs, h2, h⟩⟩
  · simp

theorem evRef_succ_some {w : World} {f l : Nat} {v : Option Nat} :
    evRef w (f+1) l = some v ↔
      if !(w.lnk l).multi then (w.lnk l).refs.head? = v
      else match (w.lnk l).refs with
        | [] => none = v
        | r0 :: _ => ∃ es e0, (w.lnk l).refs.mapM (fun r => (evEnd w f r).map (fun e => (r, e))) = some es ∧
            evEnd w f r0 = some e0 ∧ some (pickLatest (r0, e0) es).1 = v := by
  rw [evRef.eq_2]
  split
  · simp
  · cases hr : (w.lnk l).refs with
    | nil => simp
    | cons r0 rs =>
      simp only [Option.bind_eq_bind, Option.bind_eq_some_iff, Option.some.injEq]
      exact ⟨fun ⟨es, h1, e0, h2, h⟩ => ⟨es, e0, h1, h2, h⟩, fun ⟨es, e0, h1, h2, h⟩ => ⟨es, h1, e0, h2, h⟩⟩

/-- the start equation with explicit binds (the generated equation carries a `have`). -/
theorem evStart_succ (w : World) (f o : Nat) :
    evStart w (f+1) o =
      (evDur w f o).bind fun d =>
        (evRef w f (w.op o).link).bind fun r =>
          match r with
          | none => some (linkStart (w.lnk (w.op o).link).rel none d)
          | some r => (evStart w f r).bind fun s => (evEnd w f r).bind fun e =>
              some (linkStart (w.lnk (w.op o).link).rel (some (s, e)) d) := by
  rw [evStart.eq_2]; rfl

theorem evRef_single (w : World) (l : Nat) (hm : (w.lnk l).multi = false) (f : Nat) :
    evRef w (f + 1) l = some (w.lnk l).refs.head? := by
  rw [evRef.eq_2]
  simp only [hm, Bool.not_false, if_true]

theorem evRef_noref (w : World) (f l : Nat) (h : (w.lnk l).refs = []) : evRef w (f + 1) l = some none := by
  rw [evRef.eq_2]
  simp only [h]
  split
  · rfl
  · rfl

theorem evDur_leaf_eq {w w' : World} {x x' : Nat} (hx : (w.op x).isComp = false) (hx' : (w'.op x').isComp = false)
    (hd : w'.leafDur (w'.op x').dur = w.leafDur (w.op x).dur) : ∀ f, evDur w' f x' = evDur w f x := by
  intro f
  cases f with
  | zero => rw [evDur.eq_1, evDur.eq_1]
  | succ f =>
    rw [evDur.eq_2, evDur.eq_2]
    cases f with
    | zero => rw [evLeadSpan.eq_1, evLeadSpan.eq_1]
    | succ f =>
      rw [evLeadSpan.eq_2, evLeadSpan.eq_2]
      simp only [hx, hx', Bool.false_eq_true, if_false, hd]

theorem ev_mono_step (w : World) : ∀ f : Nat,
    (∀ o v, evLeadSpan w f o = some v → evLeadSpan w (f+1) o = some v) ∧
    (∀ o v, evInterval w f o = some v → evInterval w (f+1) o = some v) ∧
    (∀ o v, evDur w f o = some v → evDur w (f+1) o = some v) ∧
    (∀ o v, evStart w f o = some v → evStart w (f+1) o = some v) ∧
    (∀ o v, evEnd w f o = some v → evEnd w (f+1) o = some v) ∧
    (∀ l v, evRef w f l = some v → evRef w (f+1) l = some v) := by
  intro f
  induction f with
  | zero =>
    refine ⟨?_, ?_, ?_, ?_, ?_, ?_⟩ <;> intro o v h
    · rw [evLeadSpan.eq_1] at h; cases h
    · rw [evInterval.eq_1] at h; cases h
    · rw [evDur.eq_1] at h; cases h
    · rw [evStart.eq_1] at h; cases h
    · rw [evEnd.eq_1] at h; cases h
    · rw [evRef.eq_1] at h; cases h
  | succ f ih =>
    -- every right-hand side of the equations is positive in the recursive calls
    obtain ⟨ihLS, ihIv, ihD, ihS, ihE, ihR⟩ := ih
    refine ⟨?_, ?_, ?_, ?_, ?_, ?_⟩
    · intro o v h
      rw [evLeadSpan_succ_some] at h ⊢
      by_cases hc : (w.op o).isComp = true
      · rw [if_pos hc] at h ⊢
        by_cases he : (w.op o).graph.isEmpty = true
        · rw [if_pos he] at h ⊢; exact h
        · rw [if_neg he] at h ⊢
          obtain ⟨hs, ivs, h1, h2, hv⟩ := h
          exact ⟨hs, ivs, mapM_mono _ _ _ (fun x _ => ihS x) hs h1, mapM_mono _ _ _ (fun x _ => ihIv x) ivs h2, hv⟩
      · rw [if_neg hc] at h ⊢; exact h
    · intro o v h
      rw [evInterval_succ_some] at h ⊢
      obtain ⟨s, l, d, h1, h2, hv⟩ := h
      exact ⟨s, l, d, ihS o s h1, ihLS o _ h2, hv⟩
    · intro o v h
      rw [evDur_succ_some] at h ⊢
      obtain ⟨l, h1⟩ := h
      exact ⟨l, ihLS o _ h1⟩
    · intro o v h
      rw [evStart_succ_some] at h ⊢
      obtain ⟨d, r, h1, h2, h3⟩ := h
      refine ⟨d, r, ihD o d h1, ihR _ r h2, ?_⟩
      cases r with
      | none => exact h3
      | some r' =>
        obtain ⟨sr, er, h4, h5, hv⟩ := h3
        exact ⟨sr, er, ihS r' sr h4, ihE r' er h5, hv⟩
    · intro o v h
      rw [evEnd_succ_some] at h ⊢
      obtain ⟨s, d, h1, h2, hv⟩ := h
      exact ⟨s, d, ihS o s h1, ihD o d h2, hv⟩
    · intro l v h
      rw [evRef_succ_some] at h ⊢
      by_cases hm : (!(w.lnk l).multi) = true
      · rw [if_pos hm] at h ⊢; exact h
      · rw [if_neg hm] at h ⊢
        cases hr : (w.lnk l).refs with
        | nil => rw [hr] at h; exact h
        | cons r0 rs =>
          rw [hr] at h
          obtain ⟨es, e0, h1, h2, hv⟩ := h
          refine ⟨es, e0, mapM_mono _ _ _ (fun x _ v hv => ?_) es h1, ihE r0 e0 h2, hv⟩
          obtain ⟨e, he, rfl⟩ := Option.map_eq_some_iff.mp hv
          rw [ihE x e he]; rfl

theorem ev_mono_le (w : World) {f f' : Nat} (hle : f ≤ f') :
    (∀ o v, evLeadSpan w f o = some v → evLeadSpan w f' o = some v) ∧
    (∀ o v, evInterval w f o = some v → evInterval w f' o = some v) ∧
    (∀ o v, evDur w f o = some v → evDur w f' o = some v) ∧
    (∀ o v, evStart w f o = some v → evStart w f' o = some v) ∧
    (∀ o v, evEnd w f o = some v → evEnd w f' o = some v) ∧
    (∀ l v, evRef w f l = some v → evRef w f' l = some v) := by
  induction hle with
  | refl => exact ⟨fun _ _ h => h, fun _ _ h => h, fun _ _ h => h, fun _ _ h => h, fun _ _ h => h, fun _ _ h => h⟩
  | step _ ih =>
    obtain ⟨a1, a2, a3, a4, a5, a6⟩ := ih
    obtain ⟨b1, b2, b3, b4, b5, b6⟩ := ev_mono_step w _
    exact ⟨fun o v h => b1 o v (a1 o v h), fun o v h => b2 o v (a2 o v h), fun o v h => b3 o v (a3 o v h),
           fun o v h => b4 o v (a4 o v h), fun o v h => b5 o v (a5 o v h), fun o v h => b6 o v (a6 o v h)⟩

def Start (w : World) (o : Nat) (v : Int) : Prop := ∃ f, evStart w f o = some v
def End (w : World) (o : Nat) (v : Int) : Prop := ∃ f, evEnd w f o = some v
def DurV (w : World) (o : Nat) (v : Int) : Prop := ∃ f, evDur w f o = some v
def LeadSpanV (w : World) (o : Nat) (v : Int × Int) : Prop := ∃ f, evLeadSpan w f o = some v
def IntervalV (w : World) (o : Nat) (v : Int × Int) : Prop := ∃ f, evInterval w f o = some v
def RefV (w : World) (l : Nat) (v : Option Nat) : Prop := ∃ f, evRef w f l = some v

theorem unique_of_mono {β} {g : Nat → Option β}
    (mono : ∀ {f f'}, f ≤ f' → ∀ v, g f = some v → g f' = some v) {a b : β}
    (ha : ∃ f, g f = some a) (hb : ∃ f, g f = some b) : a = b := by
  obtain ⟨f, hf⟩ := ha; obtain ⟨f', hf'⟩ := hb
  have h1 := mono (Nat.le_max_left f f') a hf
  rw [mono (Nat.le_max_right f f') b hf'] at h1
  exact (Option.some.inj h1).symm

theorem Start.unique {w o a b} (ha : Start w o a) (hb : Start w o b) : a = b :=
  unique_of_mono (fun h => (ev_mono_le w h).2.2.2.1 o) ha hb

theorem End.unique {w o a b} (ha : End w o a) (hb : End w o b) : a = b :=
  unique_of_mono (fun h => (ev_mono_le w h).2.2.2.2.1 o) ha hb

theorem DurV.unique {w o a b} (ha : DurV w o a) (hb : DurV w o b) : a = b :=
  unique_of_mono (fun h => (ev_mono_le w h).2.2.1 o) ha hb

theorem LeadSpanV.unique {w o a b} (ha : LeadSpanV w o a) (hb : LeadSpanV w o b) : a = b :=
  unique_of_mono (fun h => (ev_mono_le w h).1 o) ha hb

theorem IntervalV.unique {w o a b} (ha : IntervalV w o a) (hb : IntervalV w o b) : a = b :=
  unique_of_mono (fun h => (ev_mono_le w h).2.1 o) ha hb

theorem RefV.unique {w l a b} (ha : RefV w l a) (hb : RefV w l b) : a = b :=
  unique_of_mono (fun h => (ev_mono_le w h).2.2.2.2.2 l) ha hb

theorem End.decompose {w o e} (h : End w o e) : ∃ s d, Start w o s ∧ DurV w o d ∧ e = s + d := by
  obtain ⟨f, hf⟩ := h
  cases f with
  | zero => rw [evEnd.eq_1] at hf; cases hf
  | succ f =>
    obtain ⟨s, d, h1, h2, rfl⟩ := evEnd_succ_some.mp hf
    exact ⟨s, d, ⟨f, h1⟩, ⟨f, h2⟩, rfl⟩

theorem End.of_start_dur {w o s d} (hs : Start w o s) (hd : DurV w o d) : End w o (s + d) := by
  obtain ⟨f, hf⟩ := hs; obtain ⟨g, hg⟩ := hd
  exact ⟨max f g + 1, evEnd_succ_some.mpr ⟨s, d, (ev_mono_le w (Nat.le_max_left f g)).2.2.2.1 o s hf,
    (ev_mono_le w (Nat.le_max_right f g)).2.2.1 o d hg, rfl⟩⟩

theorem Start.decompose {w o s} (h : Start w o s) :
    ∃ d r, DurV w o d ∧ RefV w (w.op o).link r ∧
      ((r = none ∧ s = linkStart (w.lnk (w.op o).link).rel none d) ∨
       (∃ r' sr er, r = some r' ∧ Start w r' sr ∧ End w r' er ∧
          s = linkStart (w.lnk (w.op o).link).rel (some (sr, er)) d)) := by
  obtain ⟨f, hf⟩ := h
  cases f with
  | zero => rw [evStart.eq_1] at hf; cases hf
  | succ f =>
    obtain ⟨d, r, h1, h2, h3⟩ := evStart_succ_some.mp hf
    refine ⟨d, r, ⟨f, h1⟩, ⟨f, h2⟩, ?_⟩
    cases r with
    | none => exact Or.inl ⟨rfl, h3.symm⟩
    | some r' =>
      obtain ⟨sr, er, h4, h5, hv⟩ := h3
      exact Or.inr ⟨r', sr, er, rfl, ⟨f, h4⟩, ⟨f, h5⟩, hv.symm⟩

theorem RefV.single {w l r} (h : RefV w l r) (hs : (w.lnk l).multi = false) : r = (w.lnk l).refs.head? := by
  obtain ⟨f, hf⟩ := h
  cases f with
  | zero => rw [evRef.eq_1] at hf; cases hf
  | succ f =>
    rw [evRef_succ_some, hs] at hf
    exact hf.symm

theorem DurV.decompose {w o d} (h : DurV w o d) : ∃ l, LeadSpanV w o (l, d) := by
  obtain ⟨f, hf⟩ := h
  cases f with
  | zero => rw [evDur.eq_1] at hf; cases hf
  | succ f =>
    obtain ⟨l, h1⟩ := evDur_succ_some.mp hf
    exact ⟨l, f, h1⟩

theorem DurV.of_leadSpan {w o l d} (h : LeadSpanV w o (l, d)) : DurV w o d := by
  obtain ⟨f, hf⟩ := h
  exact ⟨f + 1, evDur_succ_some.mpr ⟨l, hf⟩⟩

theorem IntervalV.decompose {w o iv} (h : IntervalV w o iv) :
    ∃ s l d, Start w o s ∧ LeadSpanV w o (l, d) ∧ iv = (s - l, s - l + d) := by
  obtain ⟨f, hf⟩ := h
  cases f with
  | zero => rw [evInterval.eq_1] at hf; cases hf
  | succ f =>
    obtain ⟨s, l, d, h1, h2, hv⟩ := evInterval_succ_some.mp hf
    exact ⟨s, l, d, ⟨f, h1⟩, ⟨f, h2⟩, hv.symm⟩

theorem IntervalV.of_start_leadSpan {w o s l d} (hs : Start w o s) (hl : LeadSpanV w o (l, d)) :
    IntervalV w o (s - l, s - l + d) := by
  obtain ⟨f, hf⟩ := hs; obtain ⟨g, hg⟩ := hl
  exact ⟨max f g + 1, evInterval_succ_some.mpr ⟨s, l, d, (ev_mono_le w (Nat.le_max_left f g)).2.2.2.1 o s hf,
    (ev_mono_le w (Nat.le_max_right f g)).1 o (l, d) hg, rfl⟩⟩

theorem LeadSpanV.leaf {w o v} (h : LeadSpanV w o v) (hl : (w.op o).isComp = false) :
    v = (0, w.leafDur (w.op o).dur) := by
  obtain ⟨f, hf⟩ := h
  cases f with
  | zero => rw [evLeadSpan.eq_1] at hf; cases hf
  | succ f =>
    rw [evLeadSpan_succ_some, hl] at hf
    exact hf.symm

theorem durV_leaf {w : World} {x : Nat} (h : (w.op x).isComp = false) : DurV w x (w.leafDur (w.op x).dur) := by
  refine ⟨2, ?_⟩
  rw [evDur.eq_2, evLeadSpan.eq_2, h]
  rfl

theorem LeadSpanV.comp {w o v} (h : LeadSpanV w o v) (hc : (w.op o).isComp = true)
    (hne : (w.op o).graph.isEmpty = false) :
    ∃ hs ivs, (∀ n ∈ heads (w.op o).graph, ∃ s ∈ hs, Start w n s) ∧
      (∀ s ∈ hs, ∃ n ∈ heads (w.op o).graph, Start w n s) ∧
      (∀ n ∈ listing (w.op o).graph, ∃ iv ∈ ivs, IntervalV w n iv) ∧
      (∀ iv ∈ ivs, ∃ n ∈ listing (w.op o).graph, IntervalV w n iv) ∧
      ivs ≠ [] ∧ v = leadSpan hs ivs := by
  obtain ⟨f, hf⟩ := h
  cases f with
  | zero => rw [evLeadSpan.eq_1] at hf; cases hf
  | succ f =>
    rw [evLeadSpan_succ_some, hc, hne] at hf
    obtain ⟨hs, ivs, h1, h2, hv⟩ := hf
    refine ⟨hs, ivs, ?_, ?_, ?_, ?_, ?_, hv.symm⟩
    · intro n hn
      obtain ⟨s, hs', hf'⟩ := mapM_mem_left _ _ hs h1 n hn
      exact ⟨s, hs', f, hf'⟩
    · intro s hs'
      obtain ⟨n, hn, hf'⟩ := mapM_mem_right _ _ hs h1 s hs'
      exact ⟨n, hn, f, hf'⟩
    · intro n hn
      obtain ⟨iv, hiv, hf'⟩ := mapM_mem_left _ _ ivs h2 n hn
      exact ⟨iv, hiv, f, hf'⟩
    · intro iv hiv
      obtain ⟨n, hn, hf'⟩ := mapM_mem_right _ _ ivs h2 iv hiv
      exact ⟨n, hn, f, hf'⟩
    · intro he
      have hl := mapM_length _ _ ivs h2
      rw [he] at hl
      exact listing_ne_nil hne (List.eq_nil_of_length_eq_zero hl.symm)

theorem LeadSpanV.empty {w o v} (h : LeadSpanV w o v) (hc : (w.op o).isComp = true)
    (he : (w.op o).graph.isEmpty = true) : v = (0, 0) := by
  obtain ⟨f, hf⟩ := h
  cases f with
  | zero => rw [evLeadSpan.eq_1] at hf; cases hf
  | succ f =>
    rw [evLeadSpan_succ_some, hc, he] at hf
    exact hf.symm

/-- every leaf operation's strategy currently yields a non-negative duration. -/
def LeafDurNonneg (w : World) : Prop := ∀ o, (w.op o).isComp = false → 0 ≤ w.leafDur (w.op o).dur

theorem span_nonneg_fuel (w : World) (hd : LeafDurNonneg w) :
    ∀ f o l d, evLeadSpan w f o = some (l, d) → 0 ≤ d := by
  intro f
  induction f using Nat.strongRecOn with
  | ind f ih =>
    intro o l d h
    by_cases hc : (w.op o).isComp = true
    · by_cases he : (w.op o).graph.isEmpty = true
      · have := LeadSpanV.empty ⟨f, h⟩ hc he
        simp only [Prod.mk.injEq] at this; omega
      · have he' : (w.op o).graph.isEmpty = false := by simpa using he
        -- span = latest end − earliest start ≥ end − start of the first listed node, whose span is ≥ 0 by induction
        cases f with
        | zero => rw [evLeadSpan.eq_1] at h; cases h
        | succ f =>
          rw [evLeadSpan_succ_some, hc, he'] at h
          obtain ⟨hs, ivs, _, h2, hv⟩ := h
          simp only [leadSpan, Prod.mk.injEq] at hv
          cases hlst : listing (w.op o).graph with
          | nil => exact absurd hlst (listing_ne_nil he')
          | cons n ns =>
            obtain ⟨iv, hiv, hf'⟩ := mapM_mem_left _ _ ivs h2 n (hlst ▸ List.mem_cons_self)
            have hle : iv.1 ≤ iv.2 := by
              cases f with
              | zero => rw [evInterval.eq_1] at hf'; cases hf'
              | succ f' =>
                obtain ⟨s, l', d', _, h4, rfl⟩ := evInterval_succ_some.mp hf'
                have := ih f' (by omega) n l' d' h4
                simp only; omega
            have h5 : iv.2 ≤ maxOf (ivs.map (·.2)) := le_maxOf (List.mem_map.mpr ⟨iv, hiv, rfl⟩)
            have h6 : minOf (ivs.map (·.1)) ≤ iv.1 := minOf_le (List.mem_map.mpr ⟨iv, hiv, rfl⟩)
            omega
    · have hc' : (w.op o).isComp = false := by simpa using hc
      have := LeadSpanV.leaf ⟨f, h⟩ hc'
      simp only [Prod.mk.injEq] at this
      rw [this.2]; exact hd o hc'

theorem dur_nonneg {w : World} (hd : LeafDurNonneg w) {o : Nat} {d : Int} (h : DurV w o d) : 0 ≤ d := by
  obtain ⟨l, f, hf⟩ := h.decompose
  exact span_nonneg_fuel w hd f o l d hf

theorem start_le_end {w : World} (hd : LeafDurNonneg w) {a : Nat} {sa ea : Int} (hs : Start w a sa)
    (he : End w a ea) : sa ≤ ea := by
  obtain ⟨s, d, hs', hd', heq⟩ := he.decompose
  have := hs.unique hs'
  have := dur_nonneg hd hd'
  omega

end Qco.C10
