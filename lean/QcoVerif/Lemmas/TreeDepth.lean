import QcoVerif.Lemmas.TreeBuild
/-
  The depth of a tree-shaped heap is bounded by the number of its objects, so the fuel the driver uses
  (`World.depthFuel = ops.size + 2`) always suffices: the nested unrolling theorem needs NO fuel hypothesis
  (`applyModifiers_tree_any`, `applyModifiers_ones_any`).  Core Lean only.
-/
namespace Qco

def maxList : List Nat → Nat
  | [] => 0
  | x :: xs => max x (maxList xs)

theorem le_maxList {l : List Nat} {x : Nat} (h : x ∈ l) : x ≤ maxList l := by
  induction l with
  | nil => cases h
  | cons y ys ih =>
    simp only [maxList]
    rcases List.mem_cons.mp h with rfl | h
    · omega
    · have := ih h; omega

theorem maxList_le {l : List Nat} {b : Nat} (h : ∀ x ∈ l, x ≤ b) : maxList l ≤ b := by
  induction l with
  | nil => simp [maxList]
  | cons y ys ih =>
    simp only [maxList]
    have h1 := h y List.mem_cons_self
    have h2 := ih (fun x hx => h x (List.mem_cons_of_mem _ hx))
    omega

/-- number of levels of the tree below `o` (fuel-bounded). -/
def World.height (w : World) : Nat → Nat → Nat
  | 0, _ => 0
  | f+1, o => (if (w.op o).isComp then maxList ((w.kids o).map (w.height f)) else 0) + 1

theorem height_le (w : World) : ∀ (f o : Nat), w.height f o ≤ f := by
  intro f
  induction f with
  | zero => intro o; exact Nat.le_refl _
  | succ f ih =>
    intro o
    simp only [World.height]
    split
    · have : maxList ((w.kids o).map (w.height f)) ≤ f := by
        apply maxList_le
        intro x hx
        obtain ⟨n, _, rfl⟩ := List.mem_map.mp hx
        exact ih n
      omega
    · omega

theorem maxList_le_length_flatMap {α} (K : List Nat) (h : Nat → Nat) (b : Nat → List α)
    (hk : ∀ k ∈ K, h k ≤ (b k).length) : maxList (K.map h) ≤ (K.flatMap b).length := by
  induction K with
  | nil => simp [maxList]
  | cons k ks ih =>
    simp only [List.map_cons, maxList, List.flatMap_cons, List.length_append]
    have h1 := hk k List.mem_cons_self
    have h2 := ih (fun x hx => hk x (List.mem_cons_of_mem _ hx))
    omega

theorem height_le_length (w : World) : ∀ (f o : Nat), w.height f o ≤ (w.below f o).length := by
  intro f
  induction f with
  | zero => intro o; exact Nat.le_refl _
  | succ f ih =>
    intro o
    simp only [World.height, World.below]
    split
    · have := maxList_le_length_flatMap (w.kids o) (w.height f) (w.below f) (fun k _ => ih k)
      simp only [List.length_cons]
      omega
    · simp

theorem nodup_flatMap {α} (K : List Nat) (b : Nat → List α) (hK : K.Nodup) (h1 : ∀ k ∈ K, (b k).Nodup)
    (h2 : ∀ x ∈ K, ∀ y ∈ K, x ≠ y → ∀ j, j ∈ b x → j ∉ b y) : (K.flatMap b).Nodup := by
  induction K with
  | nil => simp
  | cons k ks ih =>
    rw [List.nodup_cons] at hK
    simp only [List.flatMap_cons]
    rw [List.nodup_append]
    refine ⟨h1 k List.mem_cons_self, ?_, ?_⟩
    · exact ih hK.2 (fun x hx => h1 x (List.mem_cons_of_mem _ hx))
        (fun x hx y hy => h2 x (List.mem_cons_of_mem _ hx) y (List.mem_cons_of_mem _ hy))
    · intro a ha c hc hac
      subst hac
      obtain ⟨y, hy, hay⟩ := List.mem_flatMap.mp hc
      have hky : k ≠ y := fun e => hK.1 (e ▸ hy)
      exact h2 k List.mem_cons_self y (List.mem_cons_of_mem _ hy) hky a ha hay

theorem below_nodup (w : World) : ∀ (f o : Nat), TreeBelow w f o → (w.below f o).Nodup := by
  intro f
  induction f with
  | zero => intro o h; exact h.elim
  | succ f ih =>
    intro o h
    by_cases hc : (w.op o).isComp = true
    · rw [below_comp w f o hc, List.nodup_cons]
      refine ⟨?_, ?_⟩
      · intro hmem
        obtain ⟨n, hn, hj⟩ := List.mem_flatMap.mp hmem
        exact h.not_below_kid hc hn hj
      · exact nodup_flatMap _ _ (h.kids_nodup hc) (fun k hk => ih k (h.kid hc hk))
          (fun x hx y hy hxy => h.disj hc hx hy hxy)
    · have hl : (w.op o).isComp = false := by simpa using hc
      rw [below_leaf w f o hl]
      simp

/-- **pigeonhole**: a tree has at most as many levels as the heap has objects. -/
theorem height_le_size (w : World) (f o : Nat) (h : TreeBelow w f o) : w.height f o ≤ w.ops.size := by
  have h1 := height_le_length w f o
  have h2 : (w.below f o).length ≤ (List.range w.ops.size).length := by
    apply List.Nodup.length_le_of_subset (below_nodup w f o h)
    intro j hj
    exact List.mem_range.mpr (below_lt w f o h j hj)
  rw [List.length_range] at h2
  omega

theorem tree_trim (w : World) : ∀ (f o : Nat), TreeBelow w f o → TreeBelow w (w.height f o) o := by
  intro f
  induction f with
  | zero => intro o h; exact h.elim
  | succ f ih =>
    intro o h
    by_cases hc : (w.op o).isComp = true
    · simp only [World.height, hc, if_true]
      have hkid : ∀ k ∈ w.kids o, TreeBelow w (maxList ((w.kids o).map (w.height f))) k ∧
          w.below (maxList ((w.kids o).map (w.height f))) k = w.below f k := by
        intro k hk
        have t0 := ih k (h.kid hc hk)
        have hle : w.height f k ≤ maxList ((w.kids o).map (w.height f)) :=
          le_maxList (List.mem_map.mpr ⟨k, hk, rfl⟩)
        obtain ⟨t1, b1, _⟩ := t0.mono_le hle
        obtain ⟨_, b2, _⟩ := t0.mono_le (height_le w f k)
        exact ⟨t1, b1.trans b2.symm⟩
      refine TreeBelow.comp_intro h.lt hc (h.kids_nodup hc) (fun k hk => (hkid k hk).1) ?_ ?_
      · intro k hk
        rw [(hkid k hk).2]
        exact h.not_below_kid hc hk
      · intro a ha b hb hab
        rw [(hkid a ha).2, (hkid b hb).2]
        exact h.disj hc ha hb hab
    · have hl : (w.op o).isComp = false := by simpa using hc
      simp only [World.height, hl, Bool.false_eq_true, if_false]
      exact TreeBelow.leaf_intro h.lt hl (h.stable hl)

/-- every tree has a depth bound that is at most the number of objects of the heap (and at most the given one). -/
theorem tree_depth_le_size (w : World) (f o : Nat) (h : TreeBelow w f o) :
    ∃ f0, f0 ≤ f ∧ f0 ≤ w.ops.size ∧ TreeBelow w f0 o :=
  ⟨w.height f o, height_le w f o, height_le_size w f o h, tree_trim w f o h⟩

/-- `AllOnes` at a smaller bound looks at fewer levels. -/
theorem allOnes_anti (w : World) : ∀ (a b o : Nat), a ≤ b → AllOnes w b o → AllOnes w a o := by
  intro a
  induction a with
  | zero => intro b o _ _; trivial
  | succ a ih =>
    intro b o hab hb hc
    cases b with
    | zero => omega
    | succ b =>
      obtain ⟨k1, k2⟩ := hb hc
      exact ⟨k1, fun n hn => ih b n (by omega) (k2 n hn)⟩

/-- with all counts 1 the expansion of a composite is, by signature, its plain operation listing (walk fuel `g ≥ f`). -/
theorem expand_ones_leafListing (w : World) : ∀ (f c g : Nat), f ≤ g → TreeBelow w f c → AllOnes w f c →
    (w.op c).isComp = true → (w.expand f c).Perm ((w.leafListing g c).map (fun n => (w.op n).sig)) := by
  intro f
  induction f with
  | zero => intro c g _ h _ _; exact h.elim
  | succ f ih =>
    intro c g hg ht ha hcomp
    obtain ⟨g, rfl⟩ : ∃ g', g = g' + 1 := ⟨g - 1, by omega⟩
    obtain ⟨hrep, hkids⟩ := ha hcomp
    rw [expand_comp w f c hcomp, hrep]
    have h1 : max 1 (w.repCount (.fixed 1)) = 1 := rfl
    rw [h1, repeatList_one]
    unfold World.content World.leafListing
    rw [List.map_flatMap]
    have hp : (listing (w.op c).graph).Perm (w.kids c) := listing_perm _
    refine (List.Perm.flatMap_right _ hp.symm).trans (perm_flatMap_congr ?_)
    intro n hn
    have hnk := hp.mem_iff.mp hn
    have htn := ht.kid hcomp hnk
    by_cases hcn : (w.op n).isComp = true
    · rw [if_pos hcn]
      exact ih n g (by omega) htn (hkids n hnk) hcn
    · have hl : (w.op n).isComp = false := by simpa using hcn
      rw [if_neg hcn]
      obtain ⟨f, rfl⟩ : ∃ f', f = f' + 1 := ⟨f - 1, by have := htn.pos; omega⟩
      rw [expand_leaf w f n hl]
      exact List.Perm.refl _

/-- the same at the driver's fuel, whatever the depth bound. -/
theorem expand_ones_leafListing_driver (w : World) (f c : Nat) (h : TreeBelow w f c) (ha : AllOnes w f c)
    (hc : (w.op c).isComp = true) :
    (w.expand f c).Perm ((w.leafListing w.depthFuel c).map (fun n => (w.op n).sig)) := by
  obtain ⟨f0, h1, h2, t0⟩ := tree_depth_le_size w f c h
  obtain ⟨_, _, x0⟩ := t0.mono_le h1
  rw [x0]
  exact expand_ones_leafListing w f0 c w.depthFuel (by unfold World.depthFuel; omega) t0
    (allOnes_anti w f0 f c h1 ha) hc

/-- after an unrolling the operation listing of `c` is, by signature, the expansion of the heap before. -/
theorem UnrollSpec.listing {w w' : World} {f c : Nat} (s : UnrollSpec w f c w') (hc : (w.op c).isComp = true) :
    (((w'.operations c).2).map (fun n => (w'.op n).sig)).Perm (w.expand f c) := by
  rw [operations_eq_leafListing]
  exact (expand_ones_leafListing_driver w' f c s.tree s.ones (s.kind.trans hc)).symm.trans s.expand

/-- `applyModifiers_tree` for ANY depth bound `f` of the tree and recursion fuel `g ≥ f` or `g ≥` the number of objects (e.g.
    `g = depthFuel`): the fuel of the copies (`depthFuel`) always suffices. -/
theorem applyModifiers_tree_any (w : World) (f c g : Nat) (h : TreeBelow w f c) (hg : f ≤ g ∨ w.ops.size ≤ g) :
    UnrollSpec w f c (w.applyModifiers g c) := by
  obtain ⟨f0, h1, h2, t0⟩ := tree_depth_le_size w f c h
  have s := applyModifiers_tree f0 w c g t0 (by omega) (by unfold World.depthFuel; omega)
  obtain ⟨_, b0, x0⟩ := t0.mono_le h1
  obtain ⟨t1, b1, x1⟩ := s.tree.mono_le h1
  refine ⟨s.size, s.rreg, ?_, t1, ?_, ?_, (s.tree.mono_le_all h1).2.2.2 s.ones, s.kind⟩
  · intro j hj hout
    rw [b0] at hout
    exact s.frame j hj hout
  · intro j hj
    rw [b1] at hj
    rw [b0]
    exact s.sub j hj
  · rw [x1, x0]; exact s.expand

/-- the driver's call `applyModifiers depthFuel`: no fuel hypothesis at all. -/
theorem applyModifiers_tree_driver (w : World) (f c : Nat) (h : TreeBelow w f c) :
    UnrollSpec w f c (w.applyModifiers w.depthFuel c) :=
  applyModifiers_tree_any w f c _ h (Or.inr (by unfold World.depthFuel; omega))

/-- `applyModifiers_ones` with recursion fuel `g ≥` the height of the tree (e.g. `g ≥ f`, or `g = depthFuel`). -/
theorem applyModifiers_ones_any (w : World) (f c g : Nat) (h : TreeBelow w f c) (ha : AllOnes w f c)
    (hg : f ≤ g ∨ w.ops.size ≤ g) : NoWrite w (w.applyModifiers g c) := by
  obtain ⟨f0, h1, h2, t0⟩ := tree_depth_le_size w f c h
  have a0 : AllOnes w f0 c := allOnes_anti w f0 f c h1 ha
  exact applyModifiers_ones f0 w c g t0 a0 (by omega) (by unfold World.depthFuel; omega)

end Qco
