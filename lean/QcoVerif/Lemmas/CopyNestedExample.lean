import QcoVerif.Lemmas.CopyNested
import QcoVerif.Lemmas.CopyGraphExample
/-
  Non-vacuity of the hypotheses of the nested copy theorem (`NestedOk`): a circuit `c` holding a leaf `a`, a sub-circuit `s`
  (two leaves `x`, `y`), a measurement `d` with an explicit JOINED_START relation to `a` and a two-qubit gate `b` that `add`
  links behind the sub-circuit — built by the model's own `newCircuit / newLink / newOp / add`, real semantics
  (`identKeys = false`).  Evaluated step by step as in CopyGraphExample.lean.  Core Lean only.
-/
namespace Qco

theorem chansOf_flatcomp (w : World) (o : Nat) (hc : (w.op o).isComp = true)
    (hleaf : ∀ n ∈ listing (w.op o).graph, (w.op n).isComp = false) :
    w.chansOf o = dedupChans ((listing (w.op o).graph).flatMap (fun n => (w.op n).leafChans)) := by
  show w.chans (w.ops.size + 1 + 1) o = _
  rw [World.chans]
  simp only [hc, if_true]
  congr 1
  apply flatMap_congr'
  intro n hn
  rw [World.chans]
  simp only [hleaf n hn, Bool.false_eq_true, if_false]

def nxC : Op := { cls := .comp }
def nxS : Op := { cls := .comp, rep := .fixed 2 }
def nxX : Op := { cls := .rx180, qs := [0], dur := .glob .mw, link := 1 }
def nxA : Op := { cls := .rx90, qs := [1], dur := .glob .mw, link := 4 }
def nxD : Op := { cls := .measure, qs := [1], dur := .glob .ro, link := 5 }
def nxSg : List Entry := [⟨2, none, [0]⟩, ⟨3, some 2, [0, 0]⟩]
def nxL5 : Link := { refs := [4], rel := .js }

/-- `c = DeclarativeCircuit(); s = DeclarativeCircuit(repetitions 2); x = Rx180(0); s.add(x)`. -/
def nxBuild1 : World :=
  let w0 : World := {}
  let (w, _) := w0.newCircuit (.fixed 1)
  let (w, s) := w.newCircuit (.fixed 2)
  let (w, l1) := w.newLink {}
  let (w, x) := w.newOp { cls := .rx180, qs := [0], dur := .glob .mw, link := l1 }
  w.add s x

/-- `y = Ry90(0); s.add(y)` — linked FOLLOWED_BY behind `x` by `add`. -/
def nxBuild2 : World :=
  let w := nxBuild1
  let (w, l2) := w.newLink {}
  let (w, y) := w.newOp { cls := .ry90, qs := [0], dur := .glob .mw, link := l2 }
  w.add 1 y

/-- `a = Rx90(1); c.add(a)`. -/
def nxBuild3 : World :=
  let w := nxBuild2
  let (w, l3) := w.newLink {}
  let (w, a) := w.newOp { cls := .rx90, qs := [1], dur := .glob .mw, link := l3 }
  w.add 0 a

/-- `c.add(s)` — the sub-circuit object itself becomes a node of `c` (no shared channel with `a`: depth 1). -/
def nxBuild4 : World := nxBuild3.add 0 1

/-- `d = DispersiveMeasure(1, relation=RelationLink(a, JOINED_START)); c.add(d)`. -/
def nxBuild5 : World :=
  let w := nxBuild4
  let (w, l4) := w.newLink { refs := [4], rel := .js }
  let (w, d) := w.newOp { cls := .measure, qs := [1], dur := .glob .ro, link := l4 }
  w.add 0 d

/-- `b = CPhase(0, 1); c.add(b)` — linked FOLLOWED_BY behind the sub-circuit `s` (last node sharing a channel). -/
def nxWorld : World :=
  let w := nxBuild5
  let (w, l5) := w.newLink {}
  let (w, b) := w.newOp { cls := .cphase, qs := [0, 1], dur := .glob .fl, link := l5 }
  w.add 0 b

def nxS1 : World := { ops := #[nxC, nxS, nxX], links := #[{}, {}] }
def nxS1' : World := { ops := #[nxC, { nxS with graph := [⟨2, none, [0]⟩] }, nxX], links := #[{}, {}] }
def nxS2 : World :=
  { ops := #[nxC, { nxS with graph := [⟨2, none, [0]⟩] }, nxX, { cls := .ry90, qs := [0], dur := .glob .mw, link := 2 }],
    links := #[{}, {}, {}] }
def nxY : Op := { cls := .ry90, qs := [0], dur := .glob .mw, link := 3 }
def nxS2' : World :=
  { ops := #[nxC, { nxS with graph := nxSg }, nxX, nxY], links := #[{}, {}, {}, { refs := [2] }] }
def nxS3 : World :=
  { ops := #[nxC, { nxS with graph := nxSg }, nxX, nxY, nxA], links := #[{}, {}, {}, { refs := [2] }, {}] }
def nxS3' : World :=
  { ops := #[{ nxC with graph := [⟨4, none, [0]⟩] }, { nxS with graph := nxSg }, nxX, nxY, nxA],
    links := #[{}, {}, {}, { refs := [2] }, {}] }
def nxS4' : World :=
  { ops := #[{ nxC with graph := [⟨4, none, [0]⟩, ⟨1, none, [1]⟩] }, { nxS with graph := nxSg }, nxX, nxY, nxA],
    links := #[{}, {}, {}, { refs := [2] }, {}] }
def nxS5 : World :=
  { ops := #[{ nxC with graph := [⟨4, none, [0]⟩, ⟨1, none, [1]⟩] }, { nxS with graph := nxSg }, nxX, nxY, nxA, nxD],
    links := #[{}, {}, {}, { refs := [2] }, {}, nxL5] }
def nxS5' : World :=
  { ops := #[{ nxC with graph := [⟨4, none, [0]⟩, ⟨1, none, [1]⟩, ⟨5, some 4, [0, 0]⟩] }, { nxS with graph := nxSg },
             nxX, nxY, nxA, nxD],
    links := #[{}, {}, {}, { refs := [2] }, {}, nxL5] }
def nxS6 : World :=
  { ops := #[{ nxC with graph := [⟨4, none, [0]⟩, ⟨1, none, [1]⟩, ⟨5, some 4, [0, 0]⟩] }, { nxS with graph := nxSg },
             nxX, nxY, nxA, nxD, { cls := .cphase, qs := [0, 1], dur := .glob .fl, link := 6 }],
    links := #[{}, {}, {}, { refs := [2] }, {}, nxL5, {}] }
def nxCg : List Entry := [⟨4, none, [0]⟩, ⟨1, none, [1]⟩, ⟨5, some 4, [0, 0]⟩, ⟨6, some 1, [1, 0]⟩]
/-- the heap the build program produces. -/
def nxLit : World :=
  { ops := #[{ nxC with graph := nxCg }, { nxS with graph := nxSg }, nxX, nxY, nxA, nxD,
             { cls := .cphase, qs := [0, 1], dur := .glob .fl, link := 7 }],
    links := #[{}, {}, {}, { refs := [2] }, {}, nxL5, {}, { refs := [1] }] }

theorem nxStep1 : nxS1.add 1 2 = nxS1' := by
  rw [add_root_eq nxS1 1 2 (by decide) (by rw [leafAtAny_lit _ _ _ (by decide)]; decide)]
  rfl

theorem nxStep2 : nxS2.add 1 3 = nxS2' := by
  rw [add_relink_eq nxS2 1 3 2 (by decide) (by rw [leafAtAny_lit _ _ _ (by decide)]; decide)]
  rfl

theorem nxStep3 : nxS3.add 0 4 = nxS3' := by
  rw [add_root_eq nxS3 0 4 (by decide) (by rw [leafAtAny_lit _ _ _ (by decide)]; decide)]
  rfl

theorem nxSg_listing : listing nxSg = [2, 3] := by rw [listing_lit _ (by decide)]; rfl

/-- the channel identifiers of the sub-circuit `s` (object 1 with the graph `nxSg` of the leaves `x`, `y`). -/
theorem nxS_chans (w : World) (hc : (w.op 1).isComp = true) (hg : (w.op 1).graph = nxSg)
    (h2 : w.op 2 = nxX) (h3 : w.op 3 = nxY) : w.chansOf 1 = [⟨0, .mw⟩] := by
  have hleaf : ∀ n ∈ listing (w.op 1).graph, (w.op n).isComp = false := by
    rw [hg, nxSg_listing]
    intro n hn
    simp only [List.mem_cons, List.mem_nil_iff, or_false] at hn
    rcases hn with rfl | rfl
    · rw [h2]; rfl
    · rw [h3]; rfl
  rw [chansOf_flatcomp w 1 hc hleaf, hg, nxSg_listing]
  simp only [List.flatMap_cons, List.flatMap_nil, h2, h3]
  rfl

theorem nxStep4 : nxS3'.add 0 1 = nxS4' := by
  rw [add_root_eq nxS3' 0 1 (by decide) (by
    rw [nxS_chans nxS3' (by decide) rfl rfl rfl, leafAtAny_lit _ _ _ (by decide)]; decide)]
  rfl

theorem nxStep5 : nxS5.add 0 5 = nxS5' := by
  rw [add_child_eq nxS5 0 5 4 (by decide) (by decide) (by decide) (by decide)]
  rfl

theorem nxStep6 : nxS6.add 0 6 = nxLit := by
  have hs := nxS_chans nxS6 (by decide) rfl rfl rfl
  have h4 : nxS6.chansOf 4 = [⟨1, .mw⟩] := by rw [chansOf_leaf nxS6 4 (by decide)]; rfl
  have h5 : nxS6.chansOf 5 = [⟨1, .ro⟩] := by rw [chansOf_leaf nxS6 5 (by decide)]; rfl
  rw [add_relink_eq nxS6 0 6 1 (by decide) (by
    rw [leafAtAny_lit _ _ _ (by decide), chansOf_leaf nxS6 6 (by decide),
      show ((nxS6.op 0).graph.map (·.node)).reverse = [5, 1, 4] from rfl]
    simp only [List.find?_cons, h4, h5, hs]
    decide)]
  rfl

theorem nxBuild1_eq : nxBuild1 = nxS1' := nxStep1
theorem nxBuild2_eq : nxBuild2 = nxS2' := by unfold nxBuild2; rw [nxBuild1_eq]; exact nxStep2
theorem nxBuild3_eq : nxBuild3 = nxS3' := by unfold nxBuild3; rw [nxBuild2_eq]; exact nxStep3
theorem nxBuild4_eq : nxBuild4 = nxS4' := by unfold nxBuild4; rw [nxBuild3_eq]; exact nxStep4
theorem nxBuild5_eq : nxBuild5 = nxS5' := by unfold nxBuild5; rw [nxBuild4_eq]; exact nxStep5
theorem nxWorld_eq : nxWorld = nxLit := by unfold nxWorld; rw [nxBuild5_eq]; exact nxStep6

theorem nxLit_sub_tree : TreeOk nxLit 2 1 := by
  unfold TreeOk
  refine ⟨by decide, by decide, by decide, fun _ => ⟨?_, ?_, ?_, ?_, ?_⟩⟩
  · show Built (attach (attach [] none 2) (some 2) 3)
    apply built_attach
    · apply built_attach built_nil
      · intro q h; cases h
      · decide
    · intro q h; cases h; decide
    · decide
  · intro e he
    have he' : e ∈ [(⟨2, none, [0]⟩ : Entry), ⟨3, some 2, [0, 0]⟩] := he
    simp only [List.mem_cons, List.mem_nil_iff, or_false] at he'
    rcases he' with rfl | rfl
    · exact treeOk_leaf nxLit 0 2 (by decide) (by decide) (by decide) (by decide)
    · exact treeOk_leaf nxLit 0 3 (by decide) (by decide) (by decide) (by decide)
  · intro e he p hp
    have he' : e ∈ [(⟨2, none, [0]⟩ : Entry), ⟨3, some 2, [0, 0]⟩] := he
    simp only [List.mem_cons, List.mem_nil_iff, or_false] at he'
    rcases he' with rfl | rfl
    · cases hp
    · cases hp; decide
  · intro e he hp r hr
    have he' : e ∈ [(⟨2, none, [0]⟩ : Entry), ⟨3, some 2, [0, 0]⟩] := he
    simp only [List.mem_cons, List.mem_nil_iff, or_false] at he'
    rcases he' with rfl | rfl
    · have h0 : (nxLit.lnk (nxLit.op 2).link).refs.head? = none := by decide
      rw [h0] at hr; cases hr
    · cases hp
  · show RootsApart nxLit nxSg
    unfold RootsApart heads
    rw [sortedEntries_lit _ (by decide)]
    decide

theorem nxLit_chans1 : nxLit.chansOf 1 = [⟨0, .mw⟩] := nxS_chans nxLit (by decide) rfl rfl rfl

theorem nxLit_tree : TreeOk nxLit 3 0 := by
  unfold TreeOk
  refine ⟨by decide, by decide, by decide, fun _ => ⟨?_, ?_, ?_, ?_, ?_⟩⟩
  · show Built (attach (attach (attach (attach [] none 4) none 1) (some 4) 5) (some 1) 6)
    apply built_attach
    · apply built_attach
      · apply built_attach
        · apply built_attach built_nil
          · intro q h; cases h
          · decide
        · intro q h; cases h
        · decide
      · intro q h; cases h; decide
      · decide
    · intro q h; cases h; decide
    · decide
  · intro e he
    have he' : e ∈ [(⟨4, none, [0]⟩ : Entry), ⟨1, none, [1]⟩, ⟨5, some 4, [0, 0]⟩, ⟨6, some 1, [1, 0]⟩] := he
    simp only [List.mem_cons, List.mem_nil_iff, or_false] at he'
    rcases he' with rfl | rfl | rfl | rfl
    · exact treeOk_leaf nxLit 1 4 (by decide) (by decide) (by decide) (by decide)
    · exact nxLit_sub_tree
    · exact treeOk_leaf nxLit 1 5 (by decide) (by decide) (by decide) (by decide)
    · exact treeOk_leaf nxLit 1 6 (by decide) (by decide) (by decide) (by decide)
  · intro e he p hp
    have he' : e ∈ [(⟨4, none, [0]⟩ : Entry), ⟨1, none, [1]⟩, ⟨5, some 4, [0, 0]⟩, ⟨6, some 1, [1, 0]⟩] := he
    simp only [List.mem_cons, List.mem_nil_iff, or_false] at he'
    rcases he' with rfl | rfl | rfl | rfl
    · cases hp
    · cases hp
    · cases hp; decide
    · cases hp; decide
  · intro e he hp r hr
    have he' : e ∈ [(⟨4, none, [0]⟩ : Entry), ⟨1, none, [1]⟩, ⟨5, some 4, [0, 0]⟩, ⟨6, some 1, [1, 0]⟩] := he
    simp only [List.mem_cons, List.mem_nil_iff, or_false] at he'
    rcases he' with rfl | rfl | rfl | rfl
    · have h0 : (nxLit.lnk (nxLit.op 4).link).refs.head? = none := by decide
      rw [h0] at hr; cases hr
    · have h0 : (nxLit.lnk (nxLit.op 1).link).refs.head? = none := by decide
      rw [h0] at hr; cases hr
    · cases hp
    · cases hp
  · show RootsApart nxLit nxCg
    unfold RootsApart heads
    rw [sortedEntries_lit _ (by decide)]
    show [4, 1].Pairwise _
    rw [List.pairwise_cons]
    refine ⟨?_, by simp⟩
    intro y hy
    simp only [List.mem_cons, List.mem_nil_iff, or_false] at hy
    subst hy
    rw [nxLit_chans1, chansOf_leaf nxLit 4 (by decide)]
    decide

theorem nxLit_desc : nxLit.desc 3 0 = [4, 1, 2, 3, 5, 6] := by
  have hd1 : nxLit.desc 2 1 = [2, 3] := by
    rw [desc_comp nxLit 1 1 (by decide), sortedEntries_lit _ (by decide)]; rfl
  rw [desc_comp nxLit 2 0 (by decide), sortedEntries_lit _ (by decide)]
  show (nxCg.flatMap fun m => m.node :: nxLit.desc 2 m.node) = _
  simp only [nxCg, List.flatMap_cons, List.flatMap_nil, hd1]
  rfl

/-- **the hypotheses of the nested copy theorem hold for the example** (real semantics). -/
theorem nxLit_nestedOk : NestedOk nxLit 3 0 := by
  refine ⟨by decide, nxLit_tree, ?_⟩
  rw [nxLit_desc]
  decide

theorem nxWorld_nestedOk : NestedOk nxWorld 3 0 := by rw [nxWorld_eq]; exact nxLit_nestedOk

theorem nxWorld_real : nxWorld.identKeys = false := by rw [nxWorld_eq]; rfl

end Qco
