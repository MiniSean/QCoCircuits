import QcoVerif.Lemmas.RepInit
import QcoVerif.Lemmas.RepLift
/-
  C09: the per-description `Facts` hold for every well-formed description whose round has the `RoundEffect`
  (`facts_of_round`, at the end).  The fields that run the QEC block and the final part are proved here: the bodies
  for 0 … 3 cycles, the three sub-circuits, the last cycle with the final part, and that no listing contains a
  symbolic gate; the preparation layer comes from `RepInit`.
-/
namespace Qco.RepCode
open Qco.StimSem

theorem body_0 (d : Desc) : body d 0 = d.measAnc.map .M ++
    finalPart d false false (initPart d [] ++ d.measAnc.map .M) (d.measAnc.map .M) := by
  simp [body, qecBlocks, unroll, once]
theorem body_1 (d : Desc) : body d 1 = block3 d false ++
    finalPart d true false (initPart d [] ++ block3 d false) (block3 d false) := by
  simp [body, qecBlocks, unroll, once]
theorem body_2 (d : Desc) : body d 2 = block1 d ++ (block3 d false ++
    finalPart d true true (initPart d [] ++ (block1 d ++ block3 d false)) (block1 d ++ block3 d false)) := by
  simp [body, qecBlocks, unroll, once]
theorem body_3 (d : Desc) : body d 3 = block1 d ++ (block1 d ++ (block3 d true ++
    finalPart d true true (initPart d [] ++ (block1 d ++ block3 d true)) (block1 d ++ block3 d true))) := by
  simp [body, qecBlocks, unroll, once, List.replicate]

section
variable (d : Desc) (nD nA : Nat)

theorem cycleFormB_false (q : Nat) : cycleFormB d nD nA false q = aVar d nD nA q := by
  simp [cycleFormB]

theorem parity_xor_cycle_true (q : Nat) :
    parityForm d nD q ^^^ cycleFormB d nD nA true q = aVar d nD nA q := by
  simp only [cycleFormB, if_true]
  rw [Nat.xor_comm, Nat.xor_assoc, Nat.xor_self, Nat.xor_zero]

theorem expectedView_0 : expectedView d 0 nD nA =
    (finB d nD false ++ (cB d nD nA false ++ zeros d), (d.ancIdx.map (parityForm d nD)).reverse,
      expectedObservableB d nD false) := by
  have h : cycleFormB d nD nA false = aVar d nD nA := funext (cycleFormB_false d nD nA)
  have hz : (zeros d).reverse = zeros d := by simp [zeros]
  simp only [expectedView, expectedRecord, expectedDetectors, expectedObservable, if_true, List.reverse_append,
    hz, finB, cB, h, List.append_assoc]
  rfl

theorem expectedView_1 : expectedView d 1 nD nA =
    (finB d nD false ++ (cB d nD nA true ++ zeros d),
      (d.ancIdx.map (aVar d nD nA)).reverse ++ (d.ancIdx.map (cycleFormB d nD nA true)).reverse,
      expectedObservableB d nD false) := by
  simp only [expectedView, expectedRecord_reverse d nD nA 1 (by omega), expectedDetectors, expectedObservable]
  simp [revRounds, par, cycleForm]

theorem expectedView_ge2 (c : Nat) (hc : 2 ≤ c) : expectedView d c nD nA =
    (finB d nD (par (c - 1)) ++ (revRounds (cB d nD nA) c ++ zeros d),
      List.replicate ((c - 1) * d.ancIdx.length) 0 ++
        ((d.ancIdx.map (cycleFormB d nD nA false)).reverse ++ (d.ancIdx.map (cycleFormB d nD nA true)).reverse),
      expectedObservableB d nD (par (c - 1))) := by
  simp only [expectedView, expectedRecord_reverse d nD nA c (by omega), expectedDetectors_reverse d nD nA c hc,
    expectedObservable, List.reverse_append]
  rfl

end

section
variable {d : Desc} (hwf : d.wellFormed = true) {nD nA : Nat} (hR : RoundEffect d nD nA)

/-- the two most recent cycles add up to the parity -/
theorem sum_two_cycles (x y : Bool) (hxy : y = !x) (T : List Nat) {k : Nat} (hk : k < d.measAnc.length) :
    sumLookbacks (cB d nD nA x ++ (cB d nD nA y ++ T))
      [(k : Int) - d.measAnc.length, (k : Int) - d.measAnc.length - d.measAnc.length] =
      some (parityForm d nD d.measAnc[k]) := by
  subst hxy
  rw [← cycle_pair nD nA x]
  refine sumLookbacks_cons (lookback_cB nD nA x _ hk _ rfl) (sumLookbacks_single ?_)
  rw [lookback_skip_cB nD nA _ _ _ (by omega)]
  exact lookback_cB nD nA (!x) T hk _ (by omega)

include hwf

theorem run_M_anc (b ba : Bool) (T D : List Nat) (o : Nat) :
    run (d.measAnc.map .M) ⟨mk d.size (SB d nD nA b ba), T, D, o⟩ =
      some ⟨mk d.size (SB d nD nA b ba), cB d nD nA ba ++ T, D, o⟩ := by
  have hmem : ∀ q, q ∈ d.measAnc → q ∈ d.ancIdx := fun q => (measAnc_perm hwf).mem_iff.mp
  exact run_M_layer _ _ _ (cycleFormB d nD nA ba)
    (fun q hq => ⟨anc_lt_size (hmem q hq), SB_anc hwf nD nA b ba (hmem q hq)⟩) T D o

include hR

/-- first sub-circuit: a refocusing round, one raw detector per ancilla -/
theorem run_block1 (b : Bool) (T D : List Nat) (o : Nat) :
    run (block1 d) ⟨stateB d nD nA b, T, D, o⟩ =
      some ⟨stateB d nD nA (!b), cB d nD nA (!b) ++ T, (d.ancIdx.map (cycleFormB d nD nA (!b))).reverse ++ D, o⟩ :=
  run_block_raw hwf (measured_roundDD d) (fun _ => rfl) (run_roundDD hwf hR b T D o)

/-- second sub-circuit: a refocusing round, one detector per ancilla comparing with two cycles earlier -/
theorem run_block2 (b : Bool) (T D : List Nat) (o : Nat) :
    run (block2 d) ⟨stateB d nD nA b, cB d nD nA b ++ (cB d nD nA (!b) ++ T), D, o⟩ =
      some ⟨stateB d nD nA (!b), cB d nD nA (!b) ++ (cB d nD nA b ++ (cB d nD nA (!b) ++ T)),
            List.replicate d.ancIdx.length 0 ++ D, o⟩ :=
  run_block_cmp hwf (measured_roundDD d) (fun _ => rfl) (run_roundDD hwf hR b _ D o)

/-- third sub-circuit (last cycle, no refocusing), comparing with two cycles earlier -/
theorem run_block3_true (b : Bool) (T D : List Nat) (o : Nat) :
    run (block3 d true) ⟨stateB d nD nA b, cB d nD nA b ++ (cB d nD nA (!b) ++ T), D, o⟩ =
      some ⟨mk d.size (SB d nD nA b (!b)), cB d nD nA (!b) ++ (cB d nD nA b ++ (cB d nD nA (!b) ++ T)),
            List.replicate d.ancIdx.length 0 ++ D, o⟩ :=
  run_block_cmp hwf (measured_roundPlain d) (fun _ => rfl) (run_roundPlain hR b _ D o)

/-- third sub-circuit when it is the first or second cycle: raw detectors -/
theorem run_block3_false (b : Bool) (T D : List Nat) (o : Nat) :
    run (block3 d false) ⟨stateB d nD nA b, T, D, o⟩ =
      some ⟨mk d.size (SB d nD nA b (!b)), cB d nD nA (!b) ++ T,
            (d.ancIdx.map (cycleFormB d nD nA (!b))).reverse ++ D, o⟩ :=
  run_block_raw hwf (measured_roundPlain d) (fun _ => rfl) (run_roundPlain hR b T D o)

end

section
variable {d : Desc} (hwf : d.wellFormed = true) {nD nA : Nat} (hR : RoundEffect d nD nA)
include hwf

theorem small0_of_round :
    view (run (body d 0) ⟨stateB d nD nA false, zeros d, [], 0⟩) = some (expectedView d 0 nD nA) := by
  have h2 := run_finalPart hwf nD nA false false (initPart d [] ++ d.measAnc.map .M) (d.measAnc.map .M)
    (K := []) (measured_M _) (fun _ => 0) false false (cB d nD nA false ++ zeros d) [] (fun _ _ => rfl)
  simp only [Nat.xor_zero, List.append_nil] at h2
  rw [body_0, expectedView_0, stateB_eq, run_append_some (run_M_anc hwf false false (zeros d) [] 0), h2]
  rfl

include hR

theorem roundDD_of_round (b : Bool) :
    run (roundDD d) ⟨stateB d nD nA b, [], [], 0⟩ = some ⟨stateB d nD nA (!b), cB d nD nA (!b), [], 0⟩ := by
  simpa using run_roundDD hwf hR b [] [] 0

theorem mid_of_round (b : Bool) :
    run (block2 d) ⟨stateB d nD nA b, cB d nD nA b ++ cB d nD nA (!b), [], 0⟩ =
      some ⟨stateB d nD nA (!b), cB d nD nA (!b) ++ (cB d nD nA b ++ cB d nD nA (!b)),
            List.replicate d.ancIdx.length 0, 0⟩ := by
  simpa using run_block2 hwf hR b [] [] 0

theorem pre_of_round :
    run (block1 d ++ block1 d) ⟨stateB d nD nA false, [], [], 0⟩ =
      some ⟨stateB d nD nA false, cB d nD nA false ++ cB d nD nA true,
            (d.ancIdx.map (cycleForm d nD nA 1) ++ d.ancIdx.map (cycleForm d nD nA 2)).reverse, 0⟩ := by
  have h1 := run_block1 hwf hR false [] [] 0
  have h2 := run_block1 hwf hR true (cB d nD nA true) ((d.ancIdx.map (cycleFormB d nD nA true)).reverse) 0
  simp only [Bool.not_false, Bool.not_true, List.append_nil] at h1 h2
  rw [run_append_some h1, h2, List.reverse_append]
  rfl

theorem post_of_round (b : Bool) :
    view (run (block3 d true ++ finalPart4 d) ⟨stateB d nD nA b, cB d nD nA b ++ cB d nD nA (!b), [], 0⟩) =
      some (finB d nD b ++ (cB d nD nA (!b) ++ (cB d nD nA b ++ cB d nD nA (!b))),
            List.replicate (2 * d.ancIdx.length) 0, expectedObservableB d nD b) := by
  have hQ : measured (qecListing4 d) = (d.measAnc ++ d.measAnc) ++ d.measAnc := by
    rw [qecListing4, measured_append, measured_append, measured_block1, measured_block2, measured_block3]
  have h1 := run_block3_true hwf hR b [] [] 0
  have h2 := run_finalPart hwf nD nA true true (initPart d [] ++ qecListing4 d) (qecListing4 d) hQ
    (parityForm d nD) b (!b) (cB d nD nA (!b) ++ (cB d nD nA b ++ cB d nD nA (!b)))
    (List.replicate d.ancIdx.length 0) (fun k hk => sum_two_cycles (!b) b (Bool.not_not b).symm _ hk)
  simp only [List.append_nil, Nat.xor_self, map_zero_reverse] at h1 h2
  rw [run_append_some h1, finalPart4, h2]
  simp [view, Nat.two_mul]

theorem small1_of_round :
    view (run (body d 1) ⟨stateB d nD nA false, zeros d, [], 0⟩) = some (expectedView d 1 nD nA) := by
  have h1 := run_block3_false hwf hR false (zeros d) [] 0
  have h2 := run_finalPart hwf nD nA true false (initPart d [] ++ block3 d false) (block3 d false) (K := [])
    (measured_block3 d false) (cycleFormB d nD nA true) false true (cB d nD nA true ++ zeros d)
    ((d.ancIdx.map (cycleFormB d nD nA true)).reverse)
    (fun k hk => sumLookbacks_single (lookback_cB nD nA true _ hk _ rfl))
  simp only [Bool.not_false, List.append_nil, parity_xor_cycle_true] at h1 h2
  rw [body_1, expectedView_1, run_append_some h1, h2]
  rfl

theorem small2_of_round :
    view (run (body d 2) ⟨stateB d nD nA false, zeros d, [], 0⟩) = some (expectedView d 2 nD nA) := by
  have hQ : measured (block1 d ++ block3 d false) = d.measAnc ++ d.measAnc := by
    rw [measured_append, measured_block1, measured_block3]
  have h1 := run_block1 hwf hR false (zeros d) [] 0
  have h2 := run_block3_false hwf hR true (cB d nD nA true ++ zeros d)
    ((d.ancIdx.map (cycleFormB d nD nA true)).reverse) 0
  have h3 := run_finalPart hwf nD nA true true (initPart d [] ++ (block1 d ++ block3 d false))
    (block1 d ++ block3 d false) hQ (parityForm d nD) true false (cB d nD nA false ++ (cB d nD nA true ++ zeros d))
    ((d.ancIdx.map (cycleFormB d nD nA false)).reverse ++ (d.ancIdx.map (cycleFormB d nD nA true)).reverse)
    (fun k hk => sum_two_cycles false true rfl _ hk)
  simp only [Bool.not_false, Bool.not_true, List.append_nil, Nat.xor_self, map_zero_reverse] at h1 h2 h3
  rw [body_2, expectedView_ge2 d nD nA 2 (by omega), run_append_some h1, run_append_some h2, h3]
  simp [view, revRounds, par]

theorem small3_of_round :
    view (run (body d 3) ⟨stateB d nD nA false, zeros d, [], 0⟩) = some (expectedView d 3 nD nA) := by
  have hQ : measured (block1 d ++ block3 d true) = d.measAnc ++ d.measAnc := by
    rw [measured_append, measured_block1, measured_block3]
  have h1 := run_block1 hwf hR false (zeros d) [] 0
  have h2 := run_block1 hwf hR true (cB d nD nA true ++ zeros d) ((d.ancIdx.map (cycleFormB d nD nA true)).reverse) 0
  have h3 := run_block3_true hwf hR false (zeros d)
    ((d.ancIdx.map (cycleFormB d nD nA false)).reverse ++ (d.ancIdx.map (cycleFormB d nD nA true)).reverse) 0
  have h4 := run_finalPart hwf nD nA true true (initPart d [] ++ (block1 d ++ block3 d true))
    (block1 d ++ block3 d true) hQ (parityForm d nD) false true
    (cB d nD nA true ++ (cB d nD nA false ++ (cB d nD nA true ++ zeros d)))
    (List.replicate d.ancIdx.length 0 ++
      ((d.ancIdx.map (cycleFormB d nD nA false)).reverse ++ (d.ancIdx.map (cycleFormB d nD nA true)).reverse))
    (fun k hk => sum_two_cycles true false rfl _ hk)
  simp only [Bool.not_false, Bool.not_true, List.append_nil, Nat.xor_self, map_zero_reverse] at h1 h2 h3 h4
  rw [body_3, expectedView_ge2 d nD nA 3 (by omega), run_append_some h1, run_append_some h2, run_append_some h3, h4]
  simp [view, revRounds, par, Nat.two_mul]
  rw [← List.append_assoc, List.replicate_append_replicate]

end

/-! ### nothing but the preparation layer depends on the initial state -/

theorem notXV_block (d : Desc) (R tl : List Ins) (ref : Option Int) (hR : notXV R = true) (htl : notXV tl = true) :
    notXV (R ++ blockDets d R ref ++ tl) = true := by
  rw [notXV_append, notXV_append, hR, htl]
  simp [notXV, blockDets, isXV]

theorem notXV_finalPart (d : Desc) (p q : Bool) (L Q : List Ins) : notXV (finalPart d p q L Q) = true := by
  simp [notXV, finalPart, isXV]

theorem noXV_listings (d : Desc) :
    notXV (initPart d [] ++ body d 0 ++ body d 1 ++ body d 2 ++ body d 3 ++ block1 d ++ block2 d ++
            block3 d true ++ finalPart4 d) = true := by
  have h1 : notXV (block1 d) = true := notXV_block d _ _ _ (notXV_roundDD d) rfl
  have h2 : notXV (block2 d) = true := notXV_block d _ _ _ (notXV_roundDD d) rfl
  have h3 : ∀ w, notXV (block3 d w) = true := fun w => notXV_block d _ _ _ (notXV_roundPlain d) rfl
  have hi : notXV (initPart d []) = true := by simp [notXV, initPart, isXV]
  have hm : notXV (d.measAnc.map .M) = true := by simp [notXV, isXV]
  simp only [body_0, body_1, body_2, body_3, finalPart4, notXV_append, notXV_finalPart, h1, h2, h3, hi, hm,
    Bool.and_true]

/-- The per-description facts hold for every well-formed description on which one QEC round has its effect,
    and every container that gives states to the first `nD` data and the first `nA` ancilla qubits. -/
theorem facts_of_round {d : Desc} (hwf : d.wellFormed = true) {nD nA : Nat} (hD : nD ≤ d.dataIdx.length)
    (hA : nA ≤ d.ancIdx.length) (hR : RoundEffect d nD nA) : Facts d nD nA where
  wf := hwf
  init := init_of_wf hwf hD hA
  small0 := small0_of_round hwf
  small1 := small1_of_round hwf hR
  small2 := small2_of_round hwf hR
  small3 := small3_of_round hwf hR
  pre := pre_of_round hwf hR
  mid0 := mid_of_round hwf hR false
  mid1 := mid_of_round hwf hR true
  post0 := post_of_round hwf hR false
  post1 := post_of_round hwf hR true
  round0 := roundDD_of_round hwf hR false
  round1 := roundDD_of_round hwf hR true
  prepData := prepData_of_wf hwf hD
  prepAnc := prepAnc_of_wf hwf
  noXV := noXV_listings d

end Qco.RepCode
