import QcoVerif.Lemmas.Defined
import QcoVerif.Lemmas.AddToGraph
/-
  C01, definedness: the builder operations preserve the acyclicity certificate of Lemmas/Defined.lean.

  A heap is ranked iff its dependency edges `Dep w` (object → reference of its link, composite → node of its graph)
  are.  Each operation is described by what it does to the edges: `newLink` leaves them alone, `newOp` adds edges out of
  the fresh id, `setLink n l` replaces the link edges out of `n`, `add c o` replaces the link edges out of `o` by edges
  to nodes of `c` (or keeps them) and adds `c → o`.  New edges out of ONE source towards targets that do not reach it
  keep a relation ranked (`insert_ranked`: lift everything that reaches the source above everything else); `add` is
  two such insertions, `extend` a loop of `setLink` and `add`.
-/
namespace Qco.Defined

open Qco Qco.C10

inductive ReachE (E : Nat → Nat → Prop) : Nat → Nat → Prop
  | refl (x : Nat) : ReachE E x x
  | step {x y z : Nat} : E x y → ReachE E y z → ReachE E x z

def RankedE (E : Nat → Nat → Prop) (rk : Nat → Nat) : Prop := ∀ x y, E x y → rk y < rk x

theorem ReachE.rank_le {E : Nat → Nat → Prop} {rk : Nat → Nat} (h : RankedE E rk) {x y : Nat}
    (hr : ReachE E x y) : rk y ≤ rk x := by
  induction hr with
  | refl x => exact Nat.le_refl _
  | step he _ ih => have := h _ _ he; omega

theorem ReachE.trans {E : Nat → Nat → Prop} {x y z : Nat} (h1 : ReachE E x y) (h2 : ReachE E y z) :
    ReachE E x z := by
  induction h1 with
  | refl x => exact h2
  | step he _ ih => exact ReachE.step he (ih h2)

theorem ReachE.single {E : Nat → Nat → Prop} {x y : Nat} (h : E x y) : ReachE E x y :=
  ReachE.step h (ReachE.refl y)

theorem ReachE.mono {E E' : Nat → Nat → Prop} (hsub : ∀ x y, E x y → E' x y) {x y : Nat}
    (h : ReachE E x y) : ReachE E' x y := by
  induction h with
  | refl x => exact ReachE.refl x
  | step he _ ih => exact ReachE.step (hsub _ _ he) ih

def InsE (E : Nat → Nat → Prop) (a : Nat) (T : Nat → Prop) : Nat → Nat → Prop :=
  fun x y => E x y ∨ (x = a ∧ T y)

open Classical in
noncomputable def shiftRank (E : Nat → Nat → Prop) (rk : Nat → Nat) (a K : Nat) (x : Nat) : Nat :=
  rk x + (if ReachE E x a then K else 0)

theorem insert_ranked {E : Nat → Nat → Prop} {rk : Nat → Nat} {B : Nat} (h : RankedE E rk)
    (hB : ∀ x, rk x ≤ B) (a : Nat) (T : Nat → Prop) (hT : ∀ t, T t → ¬ ReachE E t a) :
    RankedE (InsE E a T) (shiftRank E rk a (B + 1)) ∧ ∀ x, shiftRank E rk a (B + 1) x ≤ 2 * B + 1 := by
  constructor
  · intro x y hxy
    unfold shiftRank
    rcases hxy with hE | ⟨rfl, hTy⟩
    · have hlt := h x y hE
      by_cases hy : ReachE E y a
      · have hx : ReachE E x a := ReachE.step hE hy
        rw [if_pos hy, if_pos hx]; omega
      · rw [if_neg hy]; split <;> omega
    · rw [if_neg (hT y hTy), if_pos (ReachE.refl x)]
      have := hB y; omega
  · intro x
    unfold shiftRank
    have := hB x
    split <;> omega

theorem reach_insert {E : Nat → Nat → Prop} {a : Nat} {T : Nat → Prop} {x y : Nat}
    (h : ReachE (InsE E a T) x y) : ReachE E x y ∨ (ReachE E x a ∧ ∃ t, T t ∧ ReachE E t y) := by
  induction h with
  | refl x => exact Or.inl (ReachE.refl x)
  | step he _ ih =>
    rcases he with hE | ⟨rfl, hTy⟩
    · rcases ih with h1 | ⟨h1, t, ht, h2⟩
      · exact Or.inl (ReachE.step hE h1)
      · exact Or.inr ⟨ReachE.step hE h1, t, ht, h2⟩
    · rcases ih with h1 | ⟨_, t, ht, h2⟩
      · exact Or.inr ⟨ReachE.refl _, _, hTy, h1⟩
      · exact Or.inr ⟨ReachE.refl _, t, ht, h2⟩

def Dep (w : World) (x y : Nat) : Prop :=
  y ∈ (w.lnk (w.op x).link).refs ∨ ((w.op x).isComp = true ∧ ∃ e ∈ (w.op x).graph, e.node = y)

/-- the second kind of `Dep` edge. -/
def GDep (w : World) (x y : Nat) : Prop := (w.op x).isComp = true ∧ ∃ e ∈ (w.op x).graph, e.node = y

def Reach (w : World) : Nat → Nat → Prop := ReachE (Dep w)

theorem ranked_iff {w : World} {rk : Nat → Nat} : Ranked w rk ↔ RankedE (Dep w) rk := by
  constructor
  · intro h x y hxy
    rcases hxy with hr | ⟨hc, e, he, rfl⟩
    · exact h.ref x y hr
    · exact h.node x hc e he
  · intro h
    exact ⟨fun o r hr => h o r (Or.inl hr), fun o hc e he => h o e.node (Or.inr ⟨hc, e, he, rfl⟩)⟩

theorem Ranked.reach_le {w : World} {rk : Nat → Nat} (h : Ranked w rk) {x y : Nat} (hr : Reach w x y) :
    rk y ≤ rk x := ReachE.rank_le (ranked_iff.mp h) hr

theorem acyclic_of_rankedE {w' : World} {E : Nat → Nat → Prop} {rk : Nat → Nat} (h : RankedE E rk)
    (hsub : ∀ x y, Dep w' x y → E x y) : Acyclic w' :=
  ⟨rk, ranked_iff.mpr fun x y hxy => h x y (hsub x y hxy)⟩

theorem Closed.dep_lt {w : World} (hc : Closed w) {x y : Nat} (h : Dep w x y) : y < w.ops.size := by
  rcases h with hr | ⟨_, e, he, rfl⟩
  · exact hc.ref x y hr
  · exact hc.node x e he

/-- nothing refers to `o` and no graph contains it. -/
def Unref (w : World) (o : Nat) : Prop := ∀ x, ¬ Dep w x o

theorem reach_unref {w : World} {o x : Nat} (hu : Unref w o) (h : Reach w x o) : x = o := by
  have key : ∀ a b, ReachE (Dep w) a b → b = o → a = o := by
    intro a b hab
    induction hab with
    | refl x => exact id
    | step he _ ih =>
      intro hz
      have := ih hz
      subst this
      exact absurd he (hu _)
  exact key x o h rfl

theorem reach_closed {w : World} {S : Nat → Prop} (hS : ∀ x y, S x → Dep w x y → S y) {x y : Nat} (hx : S x)
    (h : Reach w x y) : S y := by
  have key : ∀ a b, ReachE (Dep w) a b → S a → S b := by
    intro a b hab
    induction hab with
    | refl _ => exact id
    | step he _ ih => exact fun ha => ih (hS _ _ ha he)
  exact key x y h hx

/-! ### heaps that differ in diagnostic fields only -/

def Same (w1 w : World) : Prop := w1.ops = w.ops ∧ w1.links = w.links

theorem Same.dep {w1 w : World} (h : Same w1 w) (x y : Nat) : Dep w1 x y ↔ Dep w x y := by
  unfold Dep; rw [World.op_of_ops_eq h.1, World.lnk_of_links_eq h.2]

theorem Same.closed {w1 w : World} (h : Same w1 w) (hc : Closed w) : Closed w1 := by
  refine ⟨fun o r hr => ?_, fun o e he => ?_, fun o => ?_⟩
  · rw [World.op_of_ops_eq h.1, World.lnk_of_links_eq h.2] at hr; rw [h.1]; exact hc.ref o r hr
  · rw [World.op_of_ops_eq h.1] at he; rw [h.1]; exact hc.node o e he
  · rw [World.op_of_ops_eq h.1, h.2]; exact hc.link o

theorem Same.acyclic {w1 w : World} (h : Same w1 w) (ha : Acyclic w) : Acyclic w1 := by
  obtain ⟨rk, hrk⟩ := ha
  exact acyclic_of_rankedE (ranked_iff.mp hrk) fun x y => (h.dep x y).mp

theorem Same.unref {w1 w : World} (h : Same w1 w) {x : Nat} (hu : Unref w x) : Unref w1 x :=
  fun y hy => hu y ((h.dep y x).mp hy)

/-- a plain relation link: not a group link, at most one reference. -/
def SingleLink (L : Link) : Prop := L.multi = false ∧ L.refs.length ≤ 1

def SingleLinks (w : World) : Prop := ∀ l, SingleLink (w.lnk l)

theorem singleLink_default : SingleLink (default : Link) := ⟨rfl, by decide⟩

theorem single_refs {L : Link} (h : SingleLink L) {r : Nat} (hh : L.refs.head? = some r) : ∀ r' ∈ L.refs, r' = r := by
  intro r' hr'
  have hlen := h.2
  cases hrefs : L.refs with
  | nil => rw [hrefs] at hr'; cases hr'
  | cons a rest =>
    rw [hrefs] at hh hr' hlen
    cases rest with
    | nil =>
      simp only [List.head?_cons, Option.some.injEq] at hh
      simp only [List.mem_singleton] at hr'
      rw [hr', hh]
    | cons b rest' => simp at hlen

theorem singleLinks_newLink {w : World} (h : SingleLinks w) {L : Link} (hL : SingleLink L) :
    SingleLinks (w.newLink L).1 := by
  intro l
  by_cases hl : l = w.links.size
  · rw [hl, w.lnk_newLink_new]; exact hL
  · rw [w.lnk_newLink_of_ne L hl]; exact h l

theorem singleLinks_congr {w1 w : World} (hl : w1.links = w.links) (h : SingleLinks w) : SingleLinks w1 :=
  fun l => by rw [World.lnk_of_links_eq hl l]; exact h l

/-- the heap is kept (no relation, or an explicit relation to a node of the graph), or
    `o` receives a fresh plain link — to the channel-sharing leaf found, or to nothing — on a heap that differs from
    `w` in the diagnostic counters only.  In every case exactly `o` is attached. -/
theorem addToGraph_kept_or_relink (w : World) (g : List Entry) (o : Nat) :
    (∃ p, w.addToGraph g o = (w, attach g p o) ∧
      (w.hasRel o = false ∨ ∃ r, w.refOf (w.op o).link = some (some r) ∧ inGraph g r = true)) ∨
    (∃ w1 L p, Same w1 w ∧ w.addToGraph g o = ((w1.newLink L).1.setLink o (w1.newLink L).2, attach g p o) ∧
      SingleLink L ∧ ∀ r ∈ L.refs, w.leafAtAny g (w.chansOf o) = some r) := by
  rcases Commute.addToGraph_cases w g o with ⟨hr, _, e⟩ | ⟨r, _, href, hin, e⟩ | ⟨a, b, e⟩
  · exact Or.inl ⟨none, e, Or.inl hr⟩
  · exact Or.inl ⟨some r, e, Or.inr ⟨r, href, hin⟩⟩
  · refine Or.inr ⟨Commute.bump a b w, _, _, ⟨rfl, rfl⟩, e, ⟨rfl, ?_⟩, fun r hr => Option.mem_toList.mp hr⟩
    cases w.leafAtAny g (w.chansOf o)
    · exact Nat.zero_le 1
    · exact Nat.le_refl 1

theorem addToGraph_nodes (w : World) (g : List Entry) (o : Nat) :
    ∃ e : Entry, e.node = o ∧ (w.addToGraph g o).2 = g ++ [e] := by
  obtain ⟨p, hp⟩ := Commute.addToGraph_snd w g o
  obtain ⟨k, hk⟩ := attach_eq g p o
  exact ⟨{ node := o, parent := p, key := k }, rfl, by rw [hp, hk]⟩

/-- what `addToGraph` may do to the heap: only the link of `o` changes; its references afterwards are old ones
    or satisfy `T` (nodes of the graph the operation is added to). -/
structure LinkStep (w w' : World) (o : Nat) (T : Nat → Prop) : Prop where
  size : w'.ops.size = w.ops.size
  shape : ∀ j, (w'.op j).noLink = (w.op j).noLink
  refs_other : ∀ j, j ≠ o → (w'.lnk (w'.op j).link).refs = (w.lnk (w.op j).link).refs
  refs_o : ∀ r ∈ (w'.lnk (w'.op o).link).refs, r ∈ (w.lnk (w.op o).link).refs ∨ T r
  links_valid : ∀ j, (w'.op j).link < w'.links.size
  lnk_old : ∀ l, l < w.links.size → w'.lnk l = w.lnk l
  lsize : w.links.size ≤ w'.links.size
  op_other : ∀ j, j ≠ o → w'.op j = w.op j
  single : SingleLinks w → SingleLinks w'
  refs_o_single : o < w.ops.size → SingleLink (w.lnk (w.op o).link) → ∀ r ∈ (w'.lnk (w'.op o).link).refs, T r

theorem LinkStep.same {w : World} (o : Nat) (T : Nat → Prop) (hv : ∀ j, (w.op j).link < w.links.size)
    (hT : SingleLink (w.lnk (w.op o).link) → ∀ r ∈ (w.lnk (w.op o).link).refs, T r) : LinkStep w w o T :=
  ⟨rfl, fun _ => rfl, fun _ _ => rfl, fun _ hr => Or.inl hr, hv, fun _ _ => rfl, Nat.le_refl _, fun _ _ => rfl,
    fun h => h, fun _ => hT⟩

theorem LinkStep.relink {w w1 : World} (o : Nat) (T : Nat → Prop) (hs : Same w1 w)
    (hv : ∀ j, (w.op j).link < w.links.size) (L : Link) (hL : ∀ r ∈ L.refs, T r) (hLs : SingleLink L) :
    LinkStep w ((w1.newLink L).1.setLink o (w1.newLink L).2) o T := by
  have hidx : (w1.newLink L).2 = w.links.size := congrArg Array.size hs.2
  -- the heap after the step: objects are those of `w` except for the link field of `o`, links those of `w` plus `L`
  have hop : ∀ j, j ≠ o → ((w1.newLink L).1.setLink o (w1.newLink L).2).op j = w.op j := fun j hj => by
    rw [World.op_setLink_of_ne _ _ hj, World.op_newLink, World.op_of_ops_eq hs.1]
  have hlnk : ∀ l, l < w.links.size → ((w1.newLink L).1.setLink o (w1.newLink L).2).lnk l = w.lnk l := fun l hl => by
    rw [World.lnk_setLink, w1.lnk_newLink_of_lt L (by rw [hs.2]; exact hl), World.lnk_of_links_eq hs.2]
  have hnew : ((w1.newLink L).1.setLink o (w1.newLink L).2).lnk (w1.newLink L).2 = L := w1.lnk_newLink_new L
  have hlsz : ((w1.newLink L).1.setLink o (w1.newLink L).2).links.size = w.links.size + 1 := by
    rw [World.links_setLink, World.links_size_newLink, hs.2]
  have hlink : ∀ j, ((w1.newLink L).1.setLink o (w1.newLink L).2).op j = w.op j ∨
      (j = o ∧ (((w1.newLink L).1.setLink o (w1.newLink L).2).op j).link = (w1.newLink L).2) := fun j => by
    rw [World.op_setLink]
    split
    · rename_i h; exact Or.inr ⟨h.1.symm, rfl⟩
    · exact Or.inl (World.op_of_ops_eq hs.1 j)
  refine ⟨by rw [World.ops_size_setLink, World.ops_newLink, hs.1], fun j => ?_, fun j hj => ?_, fun r hr => ?_,
    fun j => ?_, hlnk, by rw [hlsz]; exact Nat.le_succ _, hop,
    fun h => singleLinks_congr (World.links_setLink _ _ _) (singleLinks_newLink (singleLinks_congr hs.2 h) hLs),
    fun ho _ r hr => ?_⟩
  · rw [noLink_setLink, World.op_newLink, World.op_of_ops_eq hs.1]
  · rw [hop j hj, hlnk _ (hv j)]
  · rcases hlink o with h | ⟨_, h⟩
    · rw [h, hlnk _ (hv o)] at hr; exact Or.inl hr
    · rw [h, hnew] at hr; exact Or.inr (hL r hr)
  · rw [hlsz]
    rcases hlink j with h | ⟨_, h⟩
    · rw [h]; exact Nat.lt_succ_of_lt (hv j)
    · rw [h, hidx]; exact Nat.lt_succ_self _
  · have h : (((w1.newLink L).1.setLink o (w1.newLink L).2).op o).link = (w1.newLink L).2 := by
      rw [World.op_setLink_self _ _ (by rw [World.ops_newLink, hs.1]; exact ho)]
    rw [h, hnew] at hr
    exact hL r hr

theorem mem_listing_of_inGraph {g : List Entry} {r : Nat} (h : inGraph g r = true) : r ∈ listing g := by
  unfold inGraph at h
  obtain ⟨e, he, hen⟩ := List.any_eq_true.mp h
  exact mem_listing_iff.mpr ⟨e, he, by simpa using hen⟩

theorem mem_listing_of_leafAtAny {w : World} {g : List Entry} {chs : List ChId} {lf : Nat}
    (h : w.leafAtAny g chs = some lf) : lf ∈ listing g := by
  unfold World.leafAtAny at h
  exact List.mem_reverse.mp (List.mem_of_find?_eq_some h)

theorem addToGraph_linkStep (w : World) (g : List Entry) (o : Nat) (hv : ∀ j, (w.op j).link < w.links.size) :
    LinkStep w (w.addToGraph g o).1 o (fun r => r ∈ listing g) := by
  rcases addToGraph_kept_or_relink w g o with ⟨p, heq, hkept⟩ | ⟨w1, L, p, hs, heq, hL⟩
  · rw [heq]
    refine LinkStep.same o _ hv fun hsl r hr => ?_
    rcases hkept with hnr | ⟨r0, href, hin⟩
    · -- no relation: the link has no reference
      have : (w.lnk (w.op o).link).refs = [] := List.isEmpty_iff.mp (by simpa [World.hasRel] using hnr)
      rw [this] at hr; cases hr
    · -- a plain link refers to `r0` only, which is a node of the graph
      rw [w.refOf_single _ hsl.1, Option.some.injEq] at href
      rw [single_refs hsl href r hr]
      exact mem_listing_of_inGraph hin
  · rw [heq]
    exact LinkStep.relink o _ hs hv L (fun r hr => mem_listing_of_leafAtAny (hL.2 r hr)) hL.1

theorem addToGraph_link_cases (w : World) (g : List Entry) (o : Nat) (hv : ∀ j, (w.op j).link < w.links.size) :
    (w.addToGraph g o).1.lnk ((w.addToGraph g o).1.op o).link = w.lnk (w.op o).link ∨
    SingleLink ((w.addToGraph g o).1.lnk ((w.addToGraph g o).1.op o).link) := by
  rcases addToGraph_kept_or_relink w g o with ⟨p, heq, _⟩ | ⟨w1, L, p, hs, heq, hL⟩
  · rw [heq]; exact Or.inl rfl
  · rw [heq, World.lnk_setLink, World.op_setLink]
    split
    · exact Or.inr ((w1.lnk_newLink_new L).symm ▸ hL.1)
    · rw [World.op_newLink, World.op_of_ops_eq hs.1, w1.lnk_newLink_of_lt L (hs.2 ▸ hv o), World.lnk_of_links_eq hs.2]
      exact Or.inl rfl

theorem add_lnk_link (w : World) (c o j : Nat) : (w.add c o).lnk ((w.add c o).op j).link =
    (w.addToGraph (w.op c).graph o).1.lnk ((w.addToGraph (w.op c).graph o).1.op j).link := by
  rw [add_eq_setGraph, World.link_setGraph, World.lnk_setGraph]

theorem add_size {w : World} (hc : Closed w) (c o : Nat) : (w.add c o).ops.size = w.ops.size := by
  rw [add_eq_setGraph, World.ops_size_setGraph]
  exact (addToGraph_linkStep w (w.op c).graph o hc.link).size

theorem add_lnk_old {w : World} (hc : Closed w) (c o l : Nat) (hl : l < w.links.size) :
    (w.add c o).lnk l = w.lnk l := by
  rw [add_eq_setGraph, World.lnk_setGraph]
  exact (addToGraph_linkStep w (w.op c).graph o hc.link).lnk_old l hl

theorem add_links_size {w : World} (hc : Closed w) (c o : Nat) : w.links.size ≤ (w.add c o).links.size := by
  rw [add_eq_setGraph, World.links_setGraph]
  exact (addToGraph_linkStep w (w.op c).graph o hc.link).lsize

theorem add_isComp {w : World} (hc : Closed w) (c o j : Nat) : ((w.add c o).op j).isComp = (w.op j).isComp := by
  rw [add_eq_setGraph, World.isComp_setGraph, noLink_isComp ((addToGraph_linkStep w (w.op c).graph o hc.link).shape j)]

theorem add_singleLinks {w : World} (hc : Closed w) (hs : SingleLinks w) (c o : Nat) : SingleLinks (w.add c o) := by
  intro l
  rw [add_eq_setGraph, World.lnk_setGraph]
  exact (addToGraph_linkStep w (w.op c).graph o hc.link).single hs l

theorem add_graph {w : World} (hc : Closed w) (c o : Nat) : ∃ e : Entry, e.node = o ∧ ∀ j,
    ((w.add c o).op j).graph = if c = j ∧ c < w.ops.size then (w.op c).graph ++ [e] else (w.op j).graph := by
  have ls := addToGraph_linkStep w (w.op c).graph o hc.link
  obtain ⟨e0, he0, hg⟩ := addToGraph_nodes w (w.op c).graph o
  refine ⟨e0, he0, fun j => ?_⟩
  rw [add_eq_setGraph, World.graph_setGraph, ls.size, hg, noLink_graph (ls.shape j)]

theorem add_nodes {w : World} (hc : Closed w) (c o : Nat) {j : Nat} {e : Entry} (h : e ∈ ((w.add c o).op j).graph) :
    e ∈ (w.op j).graph ∨ (j = c ∧ e.node = o) := by
  obtain ⟨e0, he0, hg⟩ := add_graph hc c o
  rw [hg] at h
  split at h
  · rename_i hcj
    rcases List.mem_append.mp h with h1 | h1
    · exact Or.inl (hcj.1 ▸ h1)
    · exact Or.inr ⟨hcj.1.symm, by rw [List.mem_singleton.mp h1, he0]⟩
  · exact Or.inl h

theorem gdep_add {w : World} (hc : Closed w) (c o : Nat) {x y : Nat} (h : GDep (w.add c o) x y) :
    GDep w x y ∨ (x = c ∧ y = o) := by
  obtain ⟨hcomp, e, he, rfl⟩ := h
  rw [add_isComp hc] at hcomp
  rcases add_nodes hc c o he with he' | h0
  · exact Or.inl ⟨hcomp, e, he', rfl⟩
  · exact Or.inr h0

theorem dep_add_cases {w : World} (hc : Closed w) (c o : Nat) {x y : Nat} (h : Dep (w.add c o) x y) :
    (x ≠ o ∧ Dep w x y) ∨ (x = o ∧ GDep w o y) ∨ (x = c ∧ y = o) ∨
    (x = o ∧ y ∈ ((w.addToGraph (w.op c).graph o).1.lnk ((w.addToGraph (w.op c).graph o).1.op o).link).refs) := by
  have ls := addToGraph_linkStep w (w.op c).graph o hc.link
  rcases h with hr | ⟨hcomp, e, he, rfl⟩
  · rw [add_lnk_link] at hr
    by_cases hx : x = o
    · subst hx
      exact Or.inr (Or.inr (Or.inr ⟨rfl, hr⟩))
    · rw [ls.refs_other x hx] at hr
      exact Or.inl ⟨hx, Or.inl hr⟩
  · rcases gdep_add hc c o ⟨hcomp, e, he, rfl⟩ with hd | h0
    · by_cases hx : x = o
      · subst hx
        exact Or.inr (Or.inl ⟨rfl, hd⟩)
      · exact Or.inl ⟨hx, Or.inr hd⟩
    · exact Or.inr (Or.inr (Or.inl h0))

theorem dep_add {w : World} (hc : Closed w) (c o : Nat) {x y : Nat} (h : Dep (w.add c o) x y) :
    Dep w x y ∨ (x = o ∧ ∃ e ∈ (w.op c).graph, e.node = y) ∨ (x = c ∧ y = o) := by
  rcases dep_add_cases hc c o h with ⟨_, hd⟩ | ⟨rfl, hd⟩ | h0 | ⟨rfl, hr⟩
  · exact Or.inl hd
  · exact Or.inl (Or.inr hd)
  · exact Or.inr (Or.inr h0)
  · rcases (addToGraph_linkStep w (w.op c).graph x hc.link).refs_o y hr with h1 | h1
    · exact Or.inl (Or.inl h1)
    · exact Or.inr (Or.inl ⟨rfl, mem_listing_iff.mp h1⟩)

/-- when the link of `o` was plain, none of its old references survives: a kept explicit link refers to a node of
    the graph, otherwise the link is replaced. -/
theorem dep_add_single {w : World} (hc : Closed w) (c o : Nat) (ho : o < w.ops.size)
    (hs : SingleLink (w.lnk (w.op o).link)) {x y : Nat} (h : Dep (w.add c o) x y) :
    (x ≠ o ∧ Dep w x y) ∨ (x = o ∧ GDep w o y) ∨ (x = o ∧ ∃ e ∈ (w.op c).graph, e.node = y) ∨ (x = c ∧ y = o) := by
  rcases dep_add_cases hc c o h with h0 | h0 | h0 | ⟨hx, hr⟩
  · exact Or.inl h0
  · exact Or.inr (Or.inl h0)
  · exact Or.inr (Or.inr (Or.inr h0))
  · exact Or.inr (Or.inr (Or.inl ⟨hx, mem_listing_iff.mp
      ((addToGraph_linkStep w (w.op c).graph o hc.link).refs_o_single ho hs y hr)⟩))

theorem add_ranked {w : World} {rk : Nat → Nat} (hc : Closed w) (h : Ranked w rk) (c o : Nat)
    (h1 : rk o < rk c) (h2 : ∀ e ∈ (w.op c).graph, rk e.node < rk o) : Ranked (w.add c o) rk := by
  rw [ranked_iff] at h ⊢
  intro x y hxy
  rcases dep_add hc c o hxy with hd | ⟨rfl, e, he, rfl⟩ | ⟨rfl, rfl⟩
  · exact h x y hd
  · exact h2 e he
  · exact h1

theorem add_closed {w : World} (hc : Closed w) (c o : Nat) (ho : o < w.ops.size) : Closed (w.add c o) := by
  refine ⟨fun x r hr => ?_, fun x e he => ?_, fun x => ?_⟩
  · rw [add_size hc]
    rcases dep_add hc c o (Or.inl hr) with hd | ⟨_, e, he, rfl⟩ | ⟨_, rfl⟩
    · exact hc.dep_lt hd
    · exact hc.node c e he
    · exact ho
  · rw [add_size hc]
    rcases add_nodes hc c o he with he | ⟨_, hen⟩
    · exact hc.node x e he
    · rw [hen]; exact ho
  · rw [add_eq_setGraph, World.link_setGraph]
    exact (addToGraph_linkStep w (w.op c).graph o hc.link).links_valid x

theorem unref_add {w : World} (hc : Closed w) (c o x : Nat) (hu : Unref w x) (hxo : x ≠ o)
    (hn : ∀ e ∈ (w.op c).graph, e.node ≠ x) : Unref (w.add c o) x := by
  intro y hy
  rcases dep_add hc c o hy with hd | ⟨_, e, he, hex⟩ | ⟨_, hxo'⟩
  · exact hu y hd
  · exact hn e he hex
  · exact hxo hxo'

/-- the two insertions behind `add c o` — edges `o → T` (the nodes of `c`), then `c → o` — over a sub-relation `E0` of
    the old edges that still contains `c → T`. -/
theorem acyclic_of_edges {w' : World} {E0 : Nat → Nat → Prop} {rk : Nat → Nat} {B : Nat} (hE0 : RankedE E0 rk)
    (hB : ∀ x, rk x ≤ B) (o c : Nat) (T : Nat → Prop)
    (hdep : ∀ x y, Dep w' x y → E0 x y ∨ (x = o ∧ T y) ∨ (x = c ∧ y = o))
    (hcT : ∀ t, T t → E0 c t) (hoc : ¬ ReachE E0 o c) (hno : ∀ t, T t → ¬ ReachE E0 t o) : Acyclic w' := by
  obtain ⟨hR1, hB1⟩ := insert_ranked hE0 hB o T hno
  have hT2 : ∀ t, (fun y => y = o) t → ¬ ReachE (InsE E0 o T) t c := by
    rintro t rfl hr
    rcases reach_insert hr with h0 | ⟨_, t', ht', h0⟩
    · exact hoc h0
    · -- `c → t' →* c` within `E0`
      have hle := ReachE.rank_le hE0 h0
      have hlt := hE0 c t' (hcT t' ht')
      omega
  obtain ⟨hR2, _⟩ := insert_ranked hR1 hB1 c (fun y => y = o) hT2
  refine acyclic_of_rankedE hR2 fun x y hxy => ?_
  rcases hdep x y hxy with hd | ⟨rfl, ht⟩ | ⟨rfl, rfl⟩
  · exact Or.inl (Or.inl hd)
  · exact Or.inl (Or.inr ⟨rfl, ht⟩)
  · exact Or.inr ⟨rfl, rfl⟩

theorem add_acyclic {w : World} (hc : Closed w) (h : Acyclic w) (c o : Nat) (hcomp : (w.op c).isComp = true)
    (hoc : ¬ Reach w o c) (hno : ∀ e ∈ (w.op c).graph, ¬ Reach w e.node o) : Acyclic (w.add c o) := by
  obtain ⟨rk0, hrk0⟩ := h
  obtain ⟨h1, hB⟩ := hrk0.compress hc
  apply acyclic_of_edges (ranked_iff.mp h1) hB o c (fun y => ∃ e ∈ (w.op c).graph, e.node = y)
    (fun x y => dep_add hc c o) (fun t ht => Or.inr ⟨hcomp, ht⟩) hoc
  rintro t ⟨e, he, rfl⟩
  exact hno e he

/-- the usual builder situation: `o` is fresh as a target (nothing refers to it, no graph contains it). -/
theorem add_acyclic_of_unref {w : World} (hc : Closed w) (h : Acyclic w) (c o : Nat)
    (hcomp : (w.op c).isComp = true) (hu : Unref w o) (hoc : ¬ Reach w o c) : Acyclic (w.add c o) := by
  apply add_acyclic hc h c o hcomp hoc
  intro e he hr
  have : e.node = o := reach_unref hu hr
  exact hu c (Or.inr ⟨hcomp, e, he, this⟩)

/-- … and `c` is a root as well (a top-level circuit): it suffices that `o ≠ c`. -/
theorem add_acyclic_of_roots {w : World} (hc : Closed w) (h : Acyclic w) (c o : Nat)
    (hcomp : (w.op c).isComp = true) (hu : Unref w o) (huc : Unref w c) (hne : o ≠ c) : Acyclic (w.add c o) :=
  add_acyclic_of_unref hc h c o hcomp hu (fun hr => hne (reach_unref huc hr))

/-- `o` has a plain link: what its old link referred to does not matter (`dep_add_single`), so `o` may have
    depended on `c` through it. -/
theorem add_acyclic_single {w : World} (hc : Closed w) (h : Acyclic w) (c o : Nat) (ho : o < w.ops.size)
    (hcomp : (w.op c).isComp = true) (hs : SingleLink (w.lnk (w.op o).link)) (hne : o ≠ c)
    (hg : ∀ y, GDep w o y → ¬ Reach w y c) (hno : ∀ e ∈ (w.op c).graph, ¬ Reach w e.node o) :
    Acyclic (w.add c o) := by
  obtain ⟨rk0, hrk0⟩ := h
  obtain ⟨h1, hB⟩ := hrk0.compress hc
  -- the old edges without the link edges out of `o`
  let E0 : Nat → Nat → Prop := fun x y => (x ≠ o ∧ Dep w x y) ∨ (x = o ∧ GDep w o y)
  have hsub : ∀ x y, E0 x y → Dep w x y := by
    intro x y hxy
    rcases hxy with ⟨_, hd⟩ | ⟨rfl, hd⟩
    · exact hd
    · exact Or.inr hd
  have hE0 : RankedE E0 (crank w rk0) := fun x y hxy => ranked_iff.mp h1 x y (hsub x y hxy)
  apply acyclic_of_edges hE0 hB o c (fun y => ∃ e ∈ (w.op c).graph, e.node = y)
  · intro x y hxy
    rcases dep_add_single hc c o ho hs hxy with h0 | h0 | h0 | h0
    · exact Or.inl (Or.inl h0)
    · exact Or.inl (Or.inr h0)
    · exact Or.inr (Or.inl h0)
    · exact Or.inr (Or.inr h0)
  · rintro t ⟨e, he, rfl⟩
    exact Or.inl ⟨hne.symm, Or.inr ⟨hcomp, e, he, rfl⟩⟩
  · intro hr
    cases hr with
    | refl => exact hne rfl
    | step he hrest =>
      rcases he with ⟨hx, _⟩ | ⟨_, hd⟩
      · exact hx rfl
      · exact hg _ hd (ReachE.mono hsub hrest)
  · rintro t ⟨e, he, rfl⟩ hr
    exact hno e he (ReachE.mono hsub hr)

theorem dep_newLink {w : World} (hc : Closed w) (L : Link) (x y : Nat) : Dep (w.newLink L).1 x y ↔ Dep w x y := by
  unfold Dep
  rw [World.op_newLink, w.lnk_newLink_of_lt L (hc.link x)]

theorem newLink_ranked {w : World} {rk : Nat → Nat} (hc : Closed w) (h : Ranked w rk) (L : Link) :
    Ranked (w.newLink L).1 rk :=
  ranked_iff.mpr fun x y hxy => ranked_iff.mp h x y ((dep_newLink hc L x y).mp hxy)

theorem newLink_acyclic {w : World} (hc : Closed w) (h : Acyclic w) (L : Link) : Acyclic (w.newLink L).1 := by
  obtain ⟨rk, hrk⟩ := h
  exact ⟨rk, newLink_ranked hc hrk L⟩

theorem newLink_closed {w : World} (hc : Closed w) (L : Link) : Closed (w.newLink L).1 := by
  refine ⟨fun o r hr => hc.dep_lt ((dep_newLink hc L o r).mp (Or.inl hr)), hc.node, fun o => ?_⟩
  rw [World.links_size_newLink]
  exact Nat.lt_succ_of_lt (hc.link o)

theorem dep_newOp (w : World) (op : Op) {x y : Nat} (h : Dep (w.newOp op).1 x y) :
    Dep w x y ∨ (x = w.ops.size ∧ (y ∈ (w.lnk op.link).refs ∨ (op.isComp = true ∧ ∃ e ∈ op.graph, e.node = y))) := by
  unfold Dep at h
  rw [World.op_newOp, World.lnk_newOp] at h
  split at h
  · rename_i hx; exact Or.inr ⟨hx, h⟩
  · exact Or.inl h

theorem newOp_ranked {w : World} {rk : Nat → Nat} (h : Ranked w rk) (op : Op)
    (h1 : ∀ r ∈ (w.lnk op.link).refs, rk r < rk w.ops.size)
    (h2 : op.isComp = true → ∀ e ∈ op.graph, rk e.node < rk w.ops.size) : Ranked (w.newOp op).1 rk := by
  rw [ranked_iff] at h ⊢
  intro x y hxy
  rcases dep_newOp w op hxy with hd | ⟨rfl, hr | ⟨hcomp, e, he, rfl⟩⟩
  · exact h x y hd
  · exact h1 y hr
  · exact h2 hcomp e he

theorem newOp_closed {w : World} (hc : Closed w) (op : Op) (hl : op.link < w.links.size)
    (h1 : ∀ r ∈ (w.lnk op.link).refs, r < w.ops.size) (h2 : ∀ e ∈ op.graph, e.node < w.ops.size) :
    Closed (w.newOp op).1 := by
  refine ⟨fun o r hr => ?_, fun o e he => ?_, fun o => ?_⟩
  · rw [World.ops_size_newOp]
    rw [World.op_newOp, World.lnk_newOp] at hr
    split at hr
    · exact Nat.lt_succ_of_lt (h1 r hr)
    · exact Nat.lt_succ_of_lt (hc.ref o r hr)
  · rw [World.ops_size_newOp]
    rw [World.op_newOp] at he
    split at he
    · exact Nat.lt_succ_of_lt (h2 e he)
    · exact Nat.lt_succ_of_lt (hc.node o e he)
  · rw [World.op_newOp, World.links_newOp]
    split
    · exact hl
    · exact hc.link o

/-- a new object whose link and graph mention existing objects only can be ranked on top of the (compressed) ranks
    of the existing ones. -/
theorem newOp_acyclic {w : World} (hc : Closed w) (h : Acyclic w) (op : Op)
    (h1 : ∀ r ∈ (w.lnk op.link).refs, r < w.ops.size) (h2 : ∀ e ∈ op.graph, e.node < w.ops.size) :
    Acyclic (w.newOp op).1 := by
  obtain ⟨rk0, hrk0⟩ := h
  obtain ⟨hr, hB⟩ := hrk0.compress hc
  refine ⟨fun x => if x = w.ops.size then w.ops.size + 1 else crank w rk0 x, ranked_iff.mpr ?_⟩
  intro x y hxy
  have hyB := hB y
  have hy : y < w.ops.size := by
    rcases dep_newOp w op hxy with hd | ⟨_, hr' | ⟨_, e, he, rfl⟩⟩
    · exact hc.dep_lt hd
    · exact h1 y hr'
    · exact h2 e he
  simp only
  rw [if_neg (Nat.ne_of_lt hy)]
  rcases dep_newOp w op hxy with hd | ⟨rfl, _⟩
  · have hlt := ranked_iff.mp hr x y hd
    split <;> omega
  · rw [if_pos rfl]; omega

/-- the object read beyond the heap (the default object) has link `0`, the link a new circuit shares. -/
theorem link_of_ge (w : World) {o : Nat} (h : w.ops.size ≤ o) : (w.op o).link = 0 := by
  rw [World.op_of_ge w h]; rfl

/-- `newCircuit` (an empty composite sharing link `0`) keeps every ranking. -/
theorem newCircuit_ranked {w : World} {rk : Nat → Nat} (h : Ranked w rk) (rep : Rep) :
    Ranked (w.newCircuit rep).1 rk := by
  apply newOp_ranked h
  · intro r hr
    apply h.ref w.ops.size r
    rw [link_of_ge w (Nat.le_refl _)]; exact hr
  · intro _ e he; cases he

theorem newCircuit_closed {w : World} (hc : Closed w) (rep : Rep) : Closed (w.newCircuit rep).1 := by
  have hd := link_of_ge w (Nat.le_refl _)
  apply newOp_closed hc
  · have := hc.link w.ops.size; rw [hd] at this; exact this
  · intro r hr
    apply hc.ref w.ops.size r
    rw [hd]; exact hr
  · intro e he; cases he

theorem newCircuit_acyclic {w : World} (h : Acyclic w) (rep : Rep) :
    Acyclic (w.newCircuit rep).1 := by
  obtain ⟨rk, hrk⟩ := h
  exact ⟨rk, newCircuit_ranked hrk rep⟩

theorem empty_no_dep (x y : Nat) : ¬ Dep ({} : World) x y := by
  have hop : ({} : World).op x = default := World.op_of_ge _ (Nat.zero_le _)
  unfold Dep
  rw [hop]
  rintro (hr | ⟨hcomp, _⟩)
  · have : (({} : World).lnk (default : Op).link) = default := by cases h : (default : Op).link <;> rfl
    rw [this] at hr; cases hr
  · cases hcomp

theorem empty_closed : Closed ({} : World) := by
  refine ⟨fun o r hr => absurd (Or.inl hr) (empty_no_dep o r), fun o e he => ?_, fun o => ?_⟩
  · rw [World.op_of_ge _ (Nat.zero_le _)] at he; cases he
  · rw [link_of_ge _ (Nat.zero_le _)]; decide

theorem empty_ranked (rk : Nat → Nat) : Ranked ({} : World) rk :=
  ranked_iff.mpr fun x y h => absurd h (empty_no_dep x y)

theorem dep_setLink (w : World) (n l : Nat) {x y : Nat} (h : Dep (w.setLink n l) x y) :
    Dep w x y ∨ (x = n ∧ y ∈ (w.lnk l).refs) := by
  unfold Dep at h
  rw [World.lnk_setLink, World.op_setLink] at h
  split at h
  · rename_i hx
    rcases h with h | h
    · exact Or.inr ⟨hx.1.symm, h⟩
    · rw [← hx.1]; exact Or.inl (Or.inr h)
  · exact Or.inl h

theorem setLink_ranked {w : World} {rk : Nat → Nat} (h : Ranked w rk) (n l : Nat)
    (hl : ∀ r ∈ (w.lnk l).refs, rk r < rk n) : Ranked (w.setLink n l) rk := by
  rw [ranked_iff] at h ⊢
  intro x y hxy
  rcases dep_setLink w n l hxy with hd | ⟨rfl, hr⟩
  · exact h x y hd
  · exact hl y hr

theorem setLink_closed {w : World} (hc : Closed w) (n l : Nat) (hl : l < w.links.size)
    (hr : ∀ r ∈ (w.lnk l).refs, r < w.ops.size) : Closed (w.setLink n l) := by
  refine ⟨fun o r hro => ?_, fun o e he => ?_, fun o => ?_⟩
  · rw [World.ops_size_setLink]
    rcases dep_setLink w n l (Or.inl hro) with hd | ⟨_, h⟩
    · exact hc.dep_lt hd
    · exact hr r h
  · rw [World.ops_size_setLink]
    rw [World.op_setLink] at he
    split at he
    · exact hc.node n e he
    · exact hc.node o e he
  · rw [World.links_setLink, World.op_setLink]
    split
    · exact hl
    · exact hc.link o

theorem mem_leaves {g : List Entry} {r : Nat} (h : r ∈ leaves g) : ∃ e ∈ g, e.node = r := by
  unfold leaves at h
  exact mem_listing_iff.mp (List.mem_filter.mp h).1

/-- invariant of the `extend` loop. -/
structure ExtInv (rk : Nat → Nat) (c rel : Nat) (N : List Nat) (w : World) (M : List Nat) : Prop where
  closed : Closed w
  ranked : Ranked w rk
  rel_lt : rel < w.links.size
  rel_rk : ∀ r ∈ (w.lnk rel).refs, ∀ n ∈ N, rk r < rk n
  rel_cl : ∀ r ∈ (w.lnk rel).refs, r < w.ops.size
  nodes : ∀ e ∈ (w.op c).graph, ∀ n ∈ M, rk e.node < rk n
  below : ∀ n ∈ M, rk n < rk c ∧ n < w.ops.size
  sub : ∀ n ∈ M, n ∈ N
  incr : M.Pairwise (fun a b => rk a < rk b)

/-- one round of the `extend` loop. -/
def extStep (c rel : Nat) (w : World) (n : Nat) : World := (if !w.hasRel n then w.setLink n rel else w).add c n

theorem extInv_step {rk : Nat → Nat} {c rel : Nat} {N : List Nat} {w : World} {n : Nat} {M : List Nat}
    (h : ExtInv rk c rel N w (n :: M)) : ExtInv rk c rel N (extStep c rel w n) M := by
  have hn := h.below n List.mem_cons_self
  have hnN := h.sub n List.mem_cons_self
  -- `w1`: the heap after the optional `setLink`
  have key : ∀ w1 : World, Closed w1 → Ranked w1 rk → w1.links = w.links → w1.ops.size = w.ops.size →
      (w1.op c).graph = (w.op c).graph → ExtInv rk c rel N (w1.add c n) M := by
    intro w1 hc1 hr1 hl1 hs1 hg1
    have hlnk : (w1.add c n).lnk rel = w.lnk rel := by
      rw [add_lnk_old hc1 c n rel (by rw [hl1]; exact h.rel_lt)]
      exact World.lnk_of_links_eq hl1 rel
    have hsz : (w1.add c n).ops.size = w.ops.size := by rw [add_size hc1, hs1]
    refine ⟨add_closed hc1 c n (by rw [hs1]; exact hn.2), ?_, ?_, ?_, ?_, ?_, ?_, ?_, ?_⟩
    · apply add_ranked hc1 hr1 c n hn.1
      intro e he; rw [hg1] at he
      exact h.nodes e he n List.mem_cons_self
    · exact Nat.lt_of_lt_of_le (hl1 ▸ h.rel_lt) (add_links_size hc1 c n)
    · rw [hlnk]; exact h.rel_rk
    · rw [hlnk, hsz]; exact h.rel_cl
    · intro e he m hm
      rcases add_nodes hc1 c n he with he | ⟨_, hen⟩
      · rw [hg1] at he; exact h.nodes e he m (List.mem_cons_of_mem _ hm)
      · rw [hen]; exact (List.pairwise_cons.mp h.incr).1 m hm
    · intro m hm
      rw [hsz]; exact h.below m (List.mem_cons_of_mem _ hm)
    · intro m hm; exact h.sub m (List.mem_cons_of_mem _ hm)
    · exact (List.pairwise_cons.mp h.incr).2
  unfold extStep
  split
  · apply key
    · exact setLink_closed h.closed n rel h.rel_lt h.rel_cl
    · exact setLink_ranked h.ranked n rel (fun r hr => h.rel_rk r hr n hnN)
    · exact World.links_setLink w n rel
    · exact World.ops_size_setLink w n rel
    · rw [World.op_setLink]
      split
      · rename_i hx; rw [← hx.1]
      · rfl
  · exact key w h.closed h.ranked rfl rfl rfl

/-- `extend` keeps a ranking in which the nodes of `other` lie strictly between the nodes of `c` and `c`
    itself, increasing in listing order (the group link to the leaves of `c` is then ranked as well). -/
theorem extend_ranked {w : World} {rk : Nat → Nat} (hc : Closed w) (h : Ranked w rk) (c other : Nat)
    (h1 : ∀ n ∈ listing (w.op other).graph, rk n < rk c)
    (h2 : ∀ e ∈ (w.op c).graph, ∀ n ∈ listing (w.op other).graph, rk e.node < rk n)
    (h3 : (listing (w.op other).graph).Pairwise (fun a b => rk a < rk b)) :
    Ranked (w.extend c other) rk ∧ Closed (w.extend c other) := by
  -- the loop runs on the heap with the fresh link `L`, whose references are nodes of `c`
  have key : ∀ L : Link, (∀ r ∈ L.refs, ∃ e ∈ (w.op c).graph, e.node = r) →
      ExtInv rk c (w.newLink L).2 (listing (w.op other).graph) (w.newLink L).1 (listing (w.op other).graph) := by
    intro L hL
    refine ⟨newLink_closed hc L, newLink_ranked hc h L, ?_, ?_, ?_, h2, ?_, fun n hn => hn, h3⟩
    · rw [World.links_size_newLink]; exact Nat.lt_succ_self _
    · rw [World.newLink_snd, World.lnk_newLink_new]
      intro r hr n hn
      obtain ⟨e, he, rfl⟩ := hL r hr
      exact h2 e he n hn
    · rw [World.newLink_snd, World.lnk_newLink_new]
      intro r hr
      obtain ⟨e, he, rfl⟩ := hL r hr
      exact hc.node c e he
    · intro n hn
      refine ⟨h1 n hn, ?_⟩
      obtain ⟨e, he, rfl⟩ := mem_listing_iff.mp hn
      exact hc.node other e he
  unfold World.extend
  simp only
  have fin : ∀ L : Link, (∀ r ∈ L.refs, ∃ e ∈ (w.op c).graph, e.node = r) →
      ExtInv rk c (w.newLink L).2 (listing (w.op other).graph)
        ((listing (w.op other).graph).foldl (extStep c (w.newLink L).2) (w.newLink L).1) [] :=
    fun L hL => foldl_inv_rest (fun M w' => ExtInv rk c (w.newLink L).2 (listing (w.op other).graph) w' M) _
      (fun _ _ _ => extInv_step) _ _ (key L hL)
  split
  · exact ⟨(fin {} (fun r hr => by cases hr)).ranked, (fin {} (fun r hr => by cases hr)).closed⟩
  · exact ⟨(fin _ (fun r hr => mem_leaves hr)).ranked, (fin _ (fun r hr => mem_leaves hr)).closed⟩

/-! ### Boolean check of `Unref` on a literal heap -/

def unrefCheck (w : World) (o : Nat) : Bool :=
  (List.range (w.ops.size + 1)).all fun x =>
    ((w.lnk (w.op x).link).refs.all fun r => decide (r ≠ o)) &&
    ((w.op x).graph.all fun e => decide (e.node ≠ o))

theorem unref_of_check (w : World) (o : Nat) (h : unrefCheck w o = true) : Unref w o := by
  intro x hx
  have := List.all_eq_true.mp h (min x w.ops.size) (List.mem_range.mpr (by omega))
  rw [op_min] at this
  simp only [Bool.and_eq_true, List.all_eq_true, decide_eq_true_eq] at this
  rcases hx with hr | ⟨_, e, he, hen⟩
  · exact this.1 o hr rfl
  · exact this.2 e he hen

end Qco.Defined
