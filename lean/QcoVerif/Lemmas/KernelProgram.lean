import QcoVerif.Lemmas.KernelCircuit
import QcoVerif.Lemmas.RepDesc
/-
  C13: from the PROGRAM model of `construct_repetition_code_circuit` (`RepCode.programWith` / `RepCode.program`, the
  model C09 validates against the real `to_stim` text) to the per-qubit TAG SEQUENCE model of Model/KernelCircuit.lean:
  the measurement targets of the program in program order (`measured_programWith`), the same record with the
  acquisition tag of the sub-circuit each measurement belongs to (`acqRecord`), and per qubit (`tagsOf`), for a
  description with distinct indices, the tag sequences `Circuit.ancillaTags rounds` / `Circuit.dataTags rounds`
  (`experiment_tags`).  Core Lean only.
-/
namespace Qco.KernelProgram

open Qco.StimSem Qco.RepCode Qco.Kernel.Circuit

theorem count_flatten_replicate (q n : Nat) (l : List Nat) :
    (List.replicate n l).flatten.count q = n * l.count q := by
  rw [List.count_flatten, List.map_replicate, List.sum_replicate_nat]

theorem count_filter_contains (l s : List Nat) (q : Nat) :
    (l.filter (s.contains ·)).count q = if q ∈ s then l.count q else 0 := by
  split
  · rename_i h; exact List.count_filter (by simpa using h)
  · rename_i h; exact List.count_eq_zero_of_not_mem fun hm => h (by simpa using (List.mem_filter.mp hm).2)

theorem count_allIdx {d : Desc} (hwf : d.wellFormed = true) {q : Nat} (hq : q ∈ d.dataIdx ∨ q ∈ d.ancIdx) :
    d.allIdx.count q = 1 := by
  rw [(allIdx_nodup hwf).count, if_pos (mem_allIdx.mpr hq)]

theorem count_measAnc (d : Desc) (q : Nat) :
    d.measAnc.count q = if q ∈ d.ancIdx then d.allIdx.count q else 0 :=
  count_filter_contains _ _ _

theorem count_measData (d : Desc) (q : Nat) :
    d.measData.count q = if q ∈ d.dataIdx then d.allIdx.count q else 0 :=
  count_filter_contains _ _ _

theorem measured_nil : measured [] = [] := rfl

theorem measured_of_noM (l : List Ins) (h : ∀ i ∈ l, isM i = false) : measured l = [] :=
  measured_noM l (List.all_eq_true.mpr fun i hi => by rw [h i hi]; rfl)

theorem measured_map_other {α : Type} (f : α → Ins) (hf : ∀ x, isM (f x) = false) (l : List α) :
    measured (l.map f) = [] := by
  refine measured_of_noM _ fun i hi => ?_
  obtain ⟨x, _, rfl⟩ := List.mem_map.mp hi
  exact hf x

theorem measured_TICK : measured [Ins.TICK] = [] := rfl

theorem measured_flatten_replicate (n : Nat) (l : List Ins) :
    measured (List.replicate n l).flatten = (List.replicate n (measured l)).flatten := by
  induction n with
  | zero => rfl
  | succ m ih => simp only [List.replicate_succ, List.flatten_cons, measured_append, ih]

/-- number of times the ancillas are measured inside `get_circuit_qec_with_detectors(qec_cycles = c)`:
    once per cycle, and ONCE when there is no cycle at all (the documented 0-round difference) -/
def qecMeasurements (c : Nat) : Nat := if c = 0 then 1 else c

/-- `get_circuit_qec_with_detectors`, REPEAT blocks unrolled: the ancillas, `qecMeasurements c` times — for every
    cycle count (0, 1, 2, 3 and the period-2 tail `k + 4`). -/
theorem measured_qec (d : Desc) (c : Nat) :
    measured (unroll (qecBlocks d c)) = (List.replicate (qecMeasurements c) d.measAnc).flatten := by
  match c with
  | 0 => simp [qecBlocks, unroll, qecMeasurements, measured_M]
  | 1 => simp [qecBlocks, unroll, qecMeasurements, measured_block3]
  | 2 =>
    simp [qecBlocks, unroll, qecMeasurements, measured_append, measured_block1, measured_block3,
      List.replicate_succ]
  | 3 =>
    simp [qecBlocks, unroll, qecMeasurements, measured_append, measured_block1, measured_block3,
      List.replicate_succ]
  | k + 4 =>
    rw [qecBlocks_ge4]
    have hq : qecMeasurements (k + 4) = 2 + ((k + 1) + 1) := by simp [qecMeasurements]; omega
    rw [hq, ← List.replicate_append_replicate, ← List.replicate_append_replicate, List.flatten_append,
      List.flatten_append]
    simp only [unroll, List.flatMap_cons, List.flatMap_nil, measured_append, measured_flatten_replicate,
      measured_block1, measured_block2, measured_block3, List.append_nil]

/-- `get_circuit_final_measurement` + detectors + observable: every data qubit once -/
theorem measured_finalPart (d : Desc) (p m : Bool) (l ql : List Ins) :
    measured (finalPart d p m l ql) = d.measData := by
  simp only [finalPart, measured_append, measured_M]
  rw [measured_map_other _ (fun _ => rfl), measured_map_other _ (fun _ => rfl)]
  simp

/-- `get_circuit_initialize_with_heralded`: the heralding measurement of every qubit, then the preparation -/
theorem measured_initPart (d : Desc) (prep : List Ins) :
    measured (initPart d prep) = d.allIdx ++ measured prep := by
  simp only [initPart, measured_append, measured_M, measured_TICK, List.append_nil]
  rw [measured_map_other _ (fun _ => rfl)]
  simp

theorem measured_body (d : Desc) (c : Nat) :
    measured (body d c) = (List.replicate (qecMeasurements c) d.measAnc).flatten ++ d.measData := by
  simp only [body, measured_append, measured_qec, measured_finalPart]

/-- THE MEASUREMENT TARGETS OF THE PROGRAM, in program order, for every description, every cycle count and every
    preparation layer: all qubits (heralding), the preparation's own measurements (none for the constructor's
    preparation, `measured_prepConc`), `qecMeasurements c` times the ancillas, the data qubits. -/
theorem measured_programWith (d : Desc) (c : Nat) (prep : List Ins) :
    measured (programWith d c prep) =
      d.allIdx ++ measured prep ++ (List.replicate (qecMeasurements c) d.measAnc).flatten ++ d.measData := by
  simp only [programWith, measured_append, measured_initPart, measured_body, List.append_assoc]

/-- the preparation layer of the constructor (`I` / `X` per given state) measures nothing -/
theorem measured_prepWith (mk : Nat → Nat → Bool → Ins) (hmk : ∀ q p b, isM (mk q p b) = false)
    (d : Desc) (nD nA : Nat) (prep : List Ins) (h : prepWith mk d nD nA = some prep) : measured prep = [] := by
  unfold prepWith at h
  split at h
  · cases h
    rw [measured_append, measured_map_other _ (fun _ => hmk _ _ _), measured_map_other _ (fun _ => hmk _ _ _)]
    rfl
  · cases h

theorem measured_prepConc {d : Desc} {ds as : List Bool} {prep : List Ins} (h : prepConc d ds as = some prep) :
    measured prep = [] := by
  refine measured_prepWith _ ?_ d _ _ prep h
  intro q p b
  simp only [mkConc]
  split <;> split <;> rfl

theorem measured_prepSym {d : Desc} {nD nA : Nat} {prep : List Ins} (h : prepSym d nD nA = some prep) :
    measured prep = [] :=
  measured_prepWith _ (fun _ _ _ => rfl) d _ _ prep h

theorem program_eq {d : Desc} {c : Nat} {ds as : List Bool} {p : List Ins} (h : program d c ds as = some p) :
    ∃ prep, prepConc d ds as = some prep ∧ p = programWith d c prep := by
  unfold program at h
  cases hp : prepConc d ds as with
  | none => simp [hp] at h
  | some prep => exact ⟨prep, rfl, by simpa [hp] using h.symm⟩

/-- the same for the exported program of concrete computational initial states -/
theorem measured_program {d : Desc} {c : Nat} {ds as : List Bool} {p : List Ins} (h : program d c ds as = some p) :
    measured p = d.allIdx ++ (List.replicate (qecMeasurements c) d.measAnc).flatten ++ d.measData := by
  obtain ⟨prep, hp, rfl⟩ := program_eq h
  rw [measured_programWith, measured_prepConc hp, List.append_nil]

def measCount (q : Nat) (p : List Ins) : Nat := (measured p).count q

theorem measCount_eq_countP (q : Nat) (p : List Ins) : measCount q p = p.countP (· == Ins.M q) := by
  induction p with
  | nil => rfl
  | cons i is ih =>
    rw [List.countP_cons, ← ih]
    cases hi : isM i with
    | true =>
      obtain ⟨q', rfl⟩ : ∃ q', i = Ins.M q' := by cases i <;> first | exact ⟨_, rfl⟩ | cases hi
      simp [measCount, measured_cons_M, List.count_cons]
    | false =>
      have hne : (i == Ins.M q) = false := by
        rw [beq_eq_false_iff_ne]; rintro rfl; cases hi
      simp [measCount, measured_cons_of_not_isM hi, hne]

/-- one acquisition: measured qubit (circuit channel index) and the `acquisition_tag` of its `DispersiveMeasure` -/
abbrev Acq := Nat × Tag

def tagAll (t : Tag) (l : List Ins) : List Acq := (measured l).map fun q => (q, t)

/-- tag of the measurements inside `get_circuit_qec_with_detectors`: `'parity'`, but `'final'` in the 0-cycle branch -/
def qecTag (c : Nat) : Tag := if c = 0 then .final else .parity

/-- The three sub-circuits `construct_repetition_code_circuit` adds, each with the tag its constructor gives to
    every `DispersiveMeasure` it creates: `get_circuit_initialize_with_heralded` ('heralded'),
    `get_circuit_qec_with_detectors` ('parity'; 'final' for 0 cycles), `get_circuit_final_measurement` ('final');
    detectors and observable (no measurement) are kept with the last part. -/
def parts (d : Desc) (c : Nat) (prep : List Ins) : List (Tag × List Ins) :=
  let bs := qecBlocks d c
  [(.heralded, initPart d prep),
   (qecTag c, unroll bs),
   (.final, finalPart d (decide (c > 0)) (decide (c > 1)) (initPart d [] ++ once bs) (once bs))]

theorem parts_flatten (d : Desc) (c : Nat) (prep : List Ins) :
    (parts d c prep).flatMap (·.2) = programWith d c prep := by
  simp [parts, programWith, body]

/-- the acquisition record of one experiment block, in program order -/
def acqRecord (d : Desc) (c : Nat) (prep : List Ins) : List Acq :=
  (parts d c prep).flatMap fun p => tagAll p.1 p.2

theorem acqRecord_qubits (d : Desc) (c : Nat) (prep : List Ins) :
    (acqRecord d c prep).map (·.1) = measured (programWith d c prep) := by
  rw [← parts_flatten]
  simp [acqRecord, parts, tagAll, measured_append, List.map_map, Function.comp_def]

theorem acqRecord_eq (d : Desc) (c : Nat) (prep : List Ins) :
    acqRecord d c prep =
      (d.allIdx ++ measured prep).map (fun q => (q, Tag.heralded)) ++
      ((List.replicate (qecMeasurements c) d.measAnc).flatten.map (fun q => (q, qecTag c)) ++
       d.measData.map (fun q => (q, Tag.final))) := by
  simp [acqRecord, parts, tagAll, measured_initPart, measured_qec, measured_finalPart]

/-- the tags of the acquisitions of qubit `q`, in order: position `i` of this list is the measurement with
    per-qubit acquisition index `i` (the registry counts per qubit) -/
def tagsOf (q : Nat) (r : List Acq) : List Tag := (r.filter (·.1 == q)).map (·.2)

theorem tagsOf_append (q : Nat) (r s : List Acq) : tagsOf q (r ++ s) = tagsOf q r ++ tagsOf q s := by
  simp [tagsOf, List.filter_append]

theorem tagsOf_nil (q : Nat) : tagsOf q [] = [] := rfl

theorem tagsOf_map_tag (q : Nat) (t : Tag) (l : List Nat) :
    tagsOf q (l.map fun x => (x, t)) = List.replicate (l.count q) t := by
  induction l with
  | nil => rfl
  | cons x xs ih =>
    simp only [tagsOf, List.map_cons, List.filter_cons, List.count_cons] at ih ⊢
    by_cases hx : x = q
    · subst hx; simp [ih, List.replicate_succ]
    · have : (x == q) = false := by simpa using hx
      simp [this, ih]

theorem tagsOf_flatMap {α : Type} (q : Nat) (f : α → List Acq) (l : List α) :
    tagsOf q (l.flatMap f) = l.flatMap fun x => tagsOf q (f x) := by
  induction l with
  | nil => rfl
  | cons x xs ih => simp only [List.flatMap_cons, tagsOf_append, ih]

/-- the tags of ANY qubit, by the number of its occurrences in the index lists -/
theorem tagsOf_acqRecord (d : Desc) (c : Nat) (prep : List Ins) (q : Nat) :
    tagsOf q (acqRecord d c prep) =
      List.replicate ((d.allIdx ++ measured prep).count q) Tag.heralded ++
      (List.replicate (qecMeasurements c * d.measAnc.count q) (qecTag c) ++
       List.replicate (d.measData.count q) Tag.final) := by
  rw [acqRecord_eq, tagsOf_append, tagsOf_append, tagsOf_map_tag, tagsOf_map_tag, tagsOf_map_tag,
    count_flatten_replicate]

theorem qecBlock_eq (c : Nat) :
    List.replicate (qecMeasurements c) (qecTag c) = if c = 0 then [Tag.final] else List.replicate c Tag.parity := by
  unfold qecMeasurements qecTag
  split <;> rfl

/-- ANCILLA: in the program of a block of `c` cycles an ancilla is measured `heralded`, then `c` × `parity`
    — and for `c = 0` once, tagged `final`. -/
theorem ancilla_tags {d : Desc} (hwf : d.wellFormed = true) {q : Nat} (hq : q ∈ d.ancIdx) (c : Nat)
    {prep : List Ins} (hprep : measured prep = []) :
    tagsOf q (acqRecord d c prep) = ancillaBlock c := by
  rw [tagsOf_acqRecord, hprep, List.append_nil, count_measAnc, count_measData, if_pos hq,
    if_neg fun hd => not_anc_of_data hwf hd hq, count_allIdx hwf (Or.inr hq), Nat.mul_one, qecBlock_eq]
  simp [ancillaBlock]

/-- DATA qubit: `heralded`, `final`, whatever the cycle count. -/
theorem data_tags {d : Desc} (hwf : d.wellFormed = true) {q : Nat} (hq : q ∈ d.dataIdx) (c : Nat)
    {prep : List Ins} (hprep : measured prep = []) :
    tagsOf q (acqRecord d c prep) = dataBlock c := by
  rw [tagsOf_acqRecord, hprep, List.append_nil, count_measAnc, count_measData, if_pos hq,
    if_neg (not_anc_of_data hwf hq), count_allIdx hwf (Or.inl hq), Nat.mul_zero]
  rfl

theorem other_tags {d : Desc} {q : Nat} (hd : q ∉ d.dataIdx) (ha : q ∉ d.ancIdx) (c : Nat)
    {prep : List Ins} (hprep : measured prep = []) :
    tagsOf q (acqRecord d c prep) = [] := by
  have h1 : d.allIdx.count q = 0 :=
    List.count_eq_zero_of_not_mem fun hm => (mem_allIdx.mp hm).elim hd ha
  rw [tagsOf_acqRecord, hprep, List.append_nil, count_measAnc, count_measData, if_neg hd, if_neg ha, h1]
  rfl

theorem tagsOf_length (q : Nat) (r : List Acq) : (tagsOf q r).length = (r.map (·.1)).count q := by
  rw [tagsOf, List.length_map, List.count, List.countP_map, List.countP_eq_length_filter]
  rfl

theorem measCount_programWith (d : Desc) (c : Nat) (prep : List Ins) (q : Nat) :
    measCount q (programWith d c prep) = (tagsOf q (acqRecord d c prep)).length := by
  rw [tagsOf_length, acqRecord_qubits, measCount]

/-- the acquisition record of the rounds part of `construct_repetition_code_multi_round_circuit`: one block per
    rounds entry, same description and same initial state (hence the same preparation layer) for every block.
    (`apply_modifiers` / `flatten` / the `Barrier` between blocks add and remove no measurement.) -/
def roundsRecord (d : Desc) (rounds : List Nat) (prep : List Ins) : List Acq :=
  rounds.flatMap fun r => acqRecord d r prep

/-- the block programs one after the other, each followed by the `Barrier` (exported as `TICK`) -/
def roundsProgram (d : Desc) (rounds : List Nat) (prep : List Ins) : List Ins :=
  rounds.flatMap fun r => programWith d r prep ++ [Ins.TICK]

theorem roundsRecord_qubits (d : Desc) (rounds : List Nat) (prep : List Ins) :
    (roundsRecord d rounds prep).map (·.1) = measured (roundsProgram d rounds prep) := by
  induction rounds with
  | nil => rfl
  | cons r rs ih =>
    simp only [roundsRecord, roundsProgram, List.flatMap_cons, List.map_append, measured_append] at ih ⊢
    rw [ih, acqRecord_qubits, measured_TICK, List.append_nil]

/-- `construct_calibration_circuit(QUTRIT)` on the channel indices `qs`: for state 0, 1, 2 one
    `get_circuit_calibrate_with_heralded` = heralding measurement of every qubit, preparation, final measurement of
    every qubit. (The calibration circuit is NOT part of `RepCode.program`; this is its acquisition record only.) -/
def calRecord (qs : List Nat) : List Acq :=
  [0, 1, 2].flatMap fun (_ : Nat) => qs.map (fun q => (q, Tag.heralded)) ++ qs.map (fun q => (q, Tag.final))

def experimentRecord (d : Desc) (rounds : List Nat) (prep : List Ins) (calQubits : List Nat) : List Acq :=
  roundsRecord d rounds prep ++ calRecord calQubits

theorem tagsOf_roundsRecord {d : Desc} {q : Nat} {prep : List Ins} {block : Nat → List Tag}
    (hb : ∀ r, tagsOf q (acqRecord d r prep) = block r) (rounds : List Nat) :
    tagsOf q (roundsRecord d rounds prep) = (rounds.map block).flatten := by
  rw [roundsRecord, tagsOf_flatMap, List.flatMap_def]
  simp only [hb]

theorem tagsOf_calRecord {qs : List Nat} (hn : qs.Nodup) {q : Nat} (hq : q ∈ qs) :
    tagsOf q (calRecord qs) = calibrationBlock := by
  have h1 : qs.count q = 1 := by rw [hn.count, if_pos hq]
  simp only [calRecord, List.flatMap_cons, List.flatMap_nil, tagsOf_append, tagsOf_map_tag, h1, tagsOf_nil]
  rfl

/-- the per-qubit tag sequence of the experiment record is the blocks of the rounds entries, then the
    calibration block — `ancillaTags rounds` for `block = ancillaBlock` (`ancilla_tags`), `dataTags rounds` for
    `block = dataBlock` (`data_tags`) -/
theorem experiment_tags {d : Desc} {q : Nat} {prep : List Ins} {block : Nat → List Tag}
    (hb : ∀ r, tagsOf q (acqRecord d r prep) = block r) (rounds : List Nat)
    {cal : List Nat} (hn : cal.Nodup) (hc : q ∈ cal) :
    tagsOf q (experimentRecord d rounds prep cal) = (rounds.map block).flatten ++ calibrationBlock := by
  rw [experimentRecord, tagsOf_append, tagsOf_roundsRecord hb, tagsOf_calRecord hn hc]

/-- `DeclarativeCircuit.get_acquisition_indices(AcquisitionTag(q, t))` on a record: the per-qubit running indices
    of the acquisitions of `q` that carry tag `t` -/
def acqIndices (q : Nat) (t : Tag) (r : List Acq) : List Nat := positions t (tagsOf q r)

end Qco.KernelProgram
