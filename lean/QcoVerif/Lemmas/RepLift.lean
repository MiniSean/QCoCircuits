import QcoVerif.Lemmas.RepDesc
import QcoVerif.Lemmas.StimSem
/-
  C09: from the per-description facts to every number of QEC cycles and every concrete initial state.
-/
namespace Qco.RepCode
open Qco.StimSem

theorem body_ge4 (d : Desc) (k : Nat) :
    body d (k + 4) = (block1 d ++ block1 d) ++ (repeatBlock (k + 1) (block2 d) ++ (block3 d true ++ finalPart4 d)) := by
  have h1 : decide (k + 4 > 0) = true := by simp
  have h2 : decide (k + 4 > 1) = true := by simp
  simp only [body, qecBlocks_ge4, h1, h2]
  simp [unroll, once, finalPart4, qecListing4, repeatBlock, List.replicate, List.append_assoc]

theorem par_add_two (r : Nat) : par (r + 2) = par r := by
  rw [par_succ, par_succ]; simp

theorem rounds_reverse (d : Desc) (nD nA c : Nat) :
    ((List.range c).flatMap fun i => d.measAnc.map (cycleForm d nD nA (i + 1))).reverse =
      revRounds (cB d nD nA) c := by
  induction c with
  | zero => rfl
  | succ c ih =>
    rw [List.range_succ, List.flatMap_append, List.reverse_append, ih]
    simp [revRounds, cB, cycleForm]

theorem expectedRecord_reverse (d : Desc) (nD nA c : Nat) (hc : c ≠ 0) :
    (expectedRecord d c nD nA).reverse =
      finB d nD (par (c - 1)) ++ (revRounds (cB d nD nA) c ++ zeros d) := by
  unfold expectedRecord
  simp only [hc, if_false, List.reverse_append, rounds_reverse]
  simp [finB, finalForm, zeros]

theorem expectedDetectors_reverse (d : Desc) (nD nA c : Nat) (hc : 2 ≤ c) :
    (expectedDetectors d c nD nA).reverse =
      List.replicate ((c - 1) * d.ancIdx.length) 0 ++
        (d.ancIdx.map (cycleForm d nD nA 1) ++ d.ancIdx.map (cycleForm d nD nA 2)).reverse := by
  unfold expectedDetectors
  have h0 : ¬ c = 0 := by omega
  have h1 : ¬ c = 1 := by omega
  simp only [h0, h1, if_false]
  rw [List.reverse_append, List.reverse_replicate]

theorem view_some {o : Option St} {v : List Nat × List Nat × Nat} (h : view o = some v) :
    ∃ s, o = some s ∧ (s.mrec, s.det, s.obs) = v := by
  cases o with
  | none => simp [view] at h
  | some s => exact ⟨s, rfl, by simpa [view] using h⟩

theorem Facts.mid {d : Desc} {nD nA : Nat} (F : Facts d nD nA) (b : Bool) :
    run (block2 d) ⟨stateB d nD nA b, cB d nD nA b ++ cB d nD nA (!b), [], 0⟩ =
      some ⟨stateB d nD nA (!b), cB d nD nA (!b) ++ (cB d nD nA b ++ cB d nD nA (!b)),
            List.replicate d.ancIdx.length 0, 0⟩ := by
  cases b
  · exact F.mid0
  · exact F.mid1

theorem Facts.post {d : Desc} {nD nA : Nat} (F : Facts d nD nA) (b : Bool) :
    view (run (block3 d true ++ finalPart4 d) ⟨stateB d nD nA b, cB d nD nA b ++ cB d nD nA (!b), [], 0⟩) =
      some (finB d nD b ++ (cB d nD nA (!b) ++ (cB d nD nA b ++ cB d nD nA (!b))),
            List.replicate (2 * d.ancIdx.length) 0, expectedObservableB d nD b) := by
  cases b
  · exact F.post0
  · exact F.post1

/-- The body (everything after the preparation layer) for ANY number of cycles, run from the prepared
    symbolic state, yields exactly the closed-form record, detector values and observable. -/
theorem facts_body_run {d : Desc} {nD nA : Nat} (F : Facts d nD nA) (c : Nat) :
    view (run (body d c) ⟨stateB d nD nA false, zeros d, [], 0⟩) = some (expectedView d c nD nA) := by
  match c with
  | 0 => exact F.small0
  | 1 => exact F.small1
  | 2 => exact F.small2
  | 3 => exact F.small3
  | k + 4 =>
    let n := d.ancIdx.length
    let dpre := (d.ancIdx.map (cycleForm d nD nA 1) ++ d.ancIdx.map (cycleForm d nD nA 2)).reverse
    rw [body_ge4]
    -- the first two cycles
    have hpre := run_frame (zeros d) [] 0 F.pre
    have e0 : extend ⟨stateB d nD nA false, [], [], 0⟩ (zeros d) [] 0 = ⟨stateB d nD nA false, zeros d, [], 0⟩ := by
      simp [extend]
    have e1 : extend ⟨stateB d nD nA false, cB d nD nA false ++ cB d nD nA true, dpre, 0⟩ (zeros d) [] 0
        = ⟨stateB d nD nA (par (0 + 2)), revRounds (cB d nD nA) (0 + 2) ++ zeros d, dpre, 0⟩ := by
      simp [extend, revRounds, par, List.append_assoc]
    rw [e0] at hpre
    rw [run_append_some hpre, e1]
    -- the repeated middle block
    have hmid := run_repeat (block2 d) (stateB d nD nA) (cB d nD nA) n F.mid (k + 1) 0 (zeros d) dpre 0
    rw [run_append_some hmid]
    -- the last cycle and the final part
    obtain ⟨sf, hsf, hview⟩ := view_some (F.post (par (k + 3)))
    have hpost := run_frame (revRounds (cB d nD nA) (k + 1) ++ zeros d) (List.replicate ((k + 1) * n) 0 ++ dpre) 0 hsf
    have hk3 : 0 + 2 + (k + 1) = k + 3 := by omega
    have e2 : extend ⟨stateB d nD nA (par (k + 3)), cB d nD nA (par (k + 3)) ++ cB d nD nA (!par (k + 3)), [], 0⟩
          (revRounds (cB d nD nA) (k + 1) ++ zeros d) (List.replicate ((k + 1) * n) 0 ++ dpre) 0
        = ⟨stateB d nD nA (par (0 + 2 + (k + 1))), revRounds (cB d nD nA) (0 + 2 + (k + 1)) ++ zeros d,
            List.replicate ((k + 1) * n) 0 ++ dpre, 0⟩ := by
      rw [hk3]
      simp [extend, revRounds, par_succ, List.append_assoc]
    rw [e2] at hpost
    rw [hpost]
    simp only [view, Option.map_some, extend, expectedView]
    have hm : sf.mrec = finB d nD (par (k + 3)) ++ (cB d nD nA (!par (k + 3)) ++ (cB d nD nA (par (k + 3)) ++ cB d nD nA (!par (k + 3)))) :=
      congrArg (·.1) hview
    have hd : sf.det = List.replicate (2 * n) 0 := congrArg (·.2.1) hview
    have ho : sf.obs = expectedObservableB d nD (par (k + 3)) := congrArg (·.2.2) hview
    rw [hm, hd, ho, expectedRecord_reverse d nD nA (k + 4) (by omega), expectedDetectors_reverse d nD nA (k + 4) (by omega)]
    have hk : k + 4 - 1 = k + 3 := by omega
    have hrep : List.replicate (2 * n) 0 ++ (List.replicate ((k + 1) * n) 0 ++ dpre)
        = List.replicate ((k + 3) * n) 0 ++ dpre := by
      rw [← List.append_assoc, List.replicate_append_replicate]
      have h23 : 2 + (k + 1) = k + 3 := by omega
      have : 2 * n + (k + 1) * n = (k + 3) * n := by
        have hh := Nat.add_mul 2 (k + 1) n
        rw [h23] at hh
        exact hh.symm
      rw [this]
    rw [hk, hrep]
    simp [expectedObservable, hk, revRounds, par_succ, List.append_assoc]
    simp only [dpre, n, List.reverse_append]

theorem all_repeatBlock (f : Ins → Bool) (k : Nat) (B : List Ins) (h : B.all f = true) :
    (repeatBlock k B).all f = true := by
  induction k with
  | zero => simp [repeatBlock]
  | succ k ih => rw [repeatBlock_succ, List.all_append, h, ih]; rfl

theorem facts_body_noXV {d : Desc} {nD nA : Nat} (F : Facts d nD nA) (c : Nat) :
    notXV (body d c) = true := by
  have h := F.noXV
  simp only [notXV, List.all_append, Bool.and_eq_true] at h
  obtain ⟨⟨⟨⟨⟨⟨⟨⟨_, b0⟩, b1⟩, b2⟩, b3⟩, k1⟩, k2⟩, k3⟩, k4⟩ := h
  match c with
  | 0 => exact b0
  | 1 => exact b1
  | 2 => exact b2
  | 3 => exact b3
  | k + 4 =>
    rw [body_ge4]
    simp only [notXV, List.all_append, Bool.and_eq_true]
    exact ⟨⟨k1, k1⟩, all_repeatBlock _ _ _ k2, k3, k4⟩

theorem map_inst_initPart (σ : Nat → Bool) (d : Desc) (prep : List Ins) :
    (initPart d prep).map (instIns σ) = initPart d (prep.map (instIns σ)) := by
  simp [initPart, List.map_append, List.map_map, Function.comp_def, instIns]

theorem mkConc_eq (ds as : List Bool) (q pos : Nat) (isAnc : Bool) (hpos : isAnc = false → pos < ds.length) :
    mkConc ds as q pos isAnc = instIns (assign ds as) (mkSym ds.length q pos isAnc) := by
  cases isAnc with
  | false =>
    have hp := hpos rfl
    simp [mkConc, mkSym, instIns, assign, dataVar, hp]
  | true =>
    simp only [mkConc, mkSym, instIns, assign, ancVar, if_true]
    have h1 : ¬ (ds.length + pos < ds.length) := by omega
    have h2 : ds.length + pos - ds.length = pos := by omega
    simp only [h1, if_false, h2]

theorem prepConc_eq (d : Desc) (ds as : List Bool) :
    prepConc d ds as = (prepSym d ds.length as.length).map (List.map (instIns (assign ds as))) := by
  unfold prepConc prepSym prepWith
  split
  · simp only [Option.map_some, List.map_append, List.map_map]
    congr 2
    · apply List.map_congr_left
      intro i hi
      simp only [Function.comp]
      exact mkConc_eq ds as _ i false (fun _ => by simpa using hi)
    · apply List.map_congr_left
      intro j _
      simp only [Function.comp]
      exact mkConc_eq ds as _ j true (fun h => by cases h)
  · rfl

theorem mapSt_start (h : Nat → Nat) (h0 : h 0 = 0) (n : Nat) : mapSt h (start n) = start n := by
  simp [mapSt, start, mapQ, h0]

/-- For every number of cycles and all concrete states: the exported program exists, its run is defined
    (every measurement deterministic), the state after the preparation layer and the record / detector
    values / observable are the closed forms instantiated with the given states. -/
theorem facts_concrete {d : Desc} {nD nA : Nat} (F : Facts d nD nA) (c : Nat) (ds as : List Bool)
    (hD : ds.length = nD) (hA : as.length = nA) :
    ∃ prep sf,
      prepConc d ds as = some prep ∧
      program d c ds as = some (initPart d prep ++ body d c) ∧
      run (initPart d prep) (start d.size) =
        some (mapSt (evalNat (assign ds as)) ⟨stateB d nD nA false, zeros d, [], 0⟩) ∧
      run (initPart d prep ++ body d c) (start d.size) = some sf ∧
      sf.mrec.reverse = (expectedRecord d c nD nA).map (evalNat (assign ds as)) ∧
      sf.det.reverse = (expectedDetectors d c nD nA).map (evalNat (assign ds as)) ∧
      sf.obs = evalNat (assign ds as) (expectedObservable d c nD) := by
  subst hD; subst hA
  have H := evalNat_formHom (assign ds as)
  cases hp : prepSym d ds.length as.length with
  | none => have := F.init; simp [hp] at this
  | some prepS =>
    have hinit : run (initPart d prepS) (start d.size) = some ⟨stateB d ds.length as.length false, zeros d, [], 0⟩ := by
      have := F.init; simpa [hp] using this
    have hprepC : prepConc d ds as = some (prepS.map (instIns (assign ds as))) := by
      rw [prepConc_eq, hp]; rfl
    have hrunInit : run (initPart d (prepS.map (instIns (assign ds as)))) (start d.size) =
        some (mapSt (evalNat (assign ds as)) ⟨stateB d ds.length as.length false, zeros d, [], 0⟩) := by
      have := run_hom H (initPart d prepS) (start d.size)
      rw [map_inst_initPart, mapSt_start _ H.zero, hinit] at this
      exact this
    obtain ⟨sb, hsb, hview⟩ := view_some (facts_body_run F c)
    have hbody : run (body d c) (mapSt (evalNat (assign ds as)) ⟨stateB d ds.length as.length false, zeros d, [], 0⟩) =
        some (mapSt (evalNat (assign ds as)) sb) := by
      rw [run_xorHom H.toXorHom (facts_body_noXV F c), hsb]; rfl
    refine ⟨prepS.map (instIns (assign ds as)), mapSt (evalNat (assign ds as)) sb, hprepC, ?_, hrunInit, ?_, ?_, ?_, ?_⟩
    · simp [program, hprepC, programWith]
    · rw [run_append_some hrunInit, hbody]
    · have : sb.mrec = (expectedRecord d c ds.length as.length).reverse := congrArg (·.1) hview
      simp [mapSt, this, List.map_reverse]
    · have : sb.det = (expectedDetectors d c ds.length as.length).reverse := congrArg (·.2.1) hview
      simp [mapSt, this, List.map_reverse]
    · have : sb.obs = expectedObservable d c ds.length := congrArg (·.2.2) hview
      simp [mapSt, this]

theorem expectedDetectors_length (d : Desc) (c nD nA : Nat) :
    (expectedDetectors d c nD nA).length = d.ancIdx.length * (c + 1) := by
  unfold expectedDetectors
  by_cases h0 : c = 0
  · simp [h0]
  · by_cases h1 : c = 1
    · simp [h1]; omega
    · simp only [h0, h1, if_false, List.length_append, List.length_map, List.length_replicate]
      have : c = (c - 1) + 1 := by omega
      generalize c - 1 = m at this ⊢
      subst this
      rw [Nat.mul_comm m, Nat.mul_add, Nat.mul_add]
      omega

theorem assign_data (ds as : List Bool) (i : Nat) (hi : i < ds.length) :
    assign ds as (dataVar i) = ds.getD i false := by
  simp [assign, dataVar, hi]

theorem assign_anc (ds as : List Bool) (j : Nat) :
    assign ds as (ancVar ds.length j) = as.getD j false := by
  have h1 : ¬ (ds.length + j < ds.length) := by omega
  have h2 : ds.length + j - ds.length = j := by omega
  simp [assign, ancVar, h1, h2]

section
variable {d : Desc} {nD nA : Nat} (F : Facts d nD nA)
include F

theorem round_effect_of_facts (b : Bool) :
    run (roundDD d) ⟨stateB d nD nA b, [], [], 0⟩ = some ⟨stateB d nD nA (!b), cB d nD nA (!b), [], 0⟩ := by
  cases b
  · exact F.round0
  · exact F.round1

theorem protocol_record_of_facts (cycles : Nat) (ds as : List Bool) (hD : ds.length = nD) (hA : as.length = nA) :
    ∃ p sf, program d cycles ds as = some p ∧ run p (start d.size) = some sf ∧
      sf.mrec.reverse = (expectedRecord d cycles nD nA).map (evalNat (assign ds as)) := by
  obtain ⟨prep, sf, _, hprog, _, hrun, hrec, _, _⟩ := facts_concrete F cycles ds as hD hA
  exact ⟨_, sf, hprog, hrun, hrec⟩

theorem detectors_deterministic_of_facts (cycles : Nat) (ds as : List Bool) (hD : ds.length = nD)
    (hA : as.length = nA) :
    ∃ p sf, program d cycles ds as = some p ∧ run p (start d.size) = some sf ∧
      p.countP isDet = d.ancIdx.length * (cycles + 1) ∧
      sf.det.reverse = (expectedDetectors d cycles nD nA).map (evalNat (assign ds as)) ∧
      (∀ v ∈ sf.det, v = 0 ∨ v = 1) := by
  obtain ⟨prep, sf, _, hprog, _, hrun, _, hdet, _⟩ := facts_concrete F cycles ds as hD hA
  refine ⟨_, sf, hprog, hrun, ?_, hdet, ?_⟩
  · have hc := (run_counts _ _ _ hrun).1
    have hl : sf.det.length = d.ancIdx.length * (cycles + 1) := by
      rw [← List.length_reverse, hdet, List.length_map, expectedDetectors_length]
    simp only [start, List.length_nil, Nat.zero_add] at hc
    omega
  · intro v hv
    have : v ∈ sf.det.reverse := List.mem_reverse.mpr hv
    rw [hdet, List.mem_map] at this
    obtain ⟨f, _, rfl⟩ := this
    unfold evalNat
    cases evalForm (assign ds as) f <;> simp

theorem observable_deterministic_of_facts (cycles : Nat) (ds as : List Bool) (hD : ds.length = nD)
    (hA : as.length = nA) :
    ∃ p sf, program d cycles ds as = some p ∧ run p (start d.size) = some sf ∧
      sf.obs = evalNat (assign ds as) (expectedObservable d cycles nD) := by
  obtain ⟨prep, sf, _, hprog, _, hrun, _, _, hobs⟩ := facts_concrete F cycles ds as hD hA
  exact ⟨_, sf, hprog, hrun, hobs⟩

theorem initial_state_prepared_of_facts (ds as : List Bool) (hD : ds.length = nD) (hA : as.length = nA) :
    ∃ prep s, prepConc d ds as = some prep ∧ run (initPart d prep) (start d.size) = some s ∧
      s.mrec = zeros d ∧
      (∀ i, i < ds.length → s.q[d.dataIdx.getD i 0]? = some ⟨.Z, (ds.getD i false).toNat⟩) ∧
      (∀ j, j < d.ancIdx.length → s.q[d.ancIdx.getD j 0]? = some ⟨.Z, (as.getD j false).toNat⟩) := by
  obtain ⟨prep, sf, hprep, _, hinit, _⟩ := facts_concrete F 0 ds as hD hA
  subst hD hA
  refine ⟨prep, _, hprep, hinit, ?_, ?_, ?_⟩
  · simp [mapSt, zeros, evalNat_zero]
  · intro i hi
    have h := F.prepData
    rw [List.all_eq_true] at h
    have := h i (List.mem_range.mpr hi)
    simp only [decide_eq_true_eq] at this
    simp only [mapSt, List.getElem?_map, this, Option.map_some, mapQ, evalNat_var, assign_data ds as i hi]
  · intro j hj
    have h := F.prepAnc
    rw [List.all_eq_true] at h
    have := h j (List.mem_range.mpr hj)
    simp only [decide_eq_true_eq] at this
    simp only [mapSt, List.getElem?_map, this, Option.map_some, mapQ]
    by_cases hjA : j < as.length
    · simp only [hjA, if_true, evalNat_var, assign_anc ds as j]
    · simp [hjA, evalNat_zero]

end

end Qco.RepCode
