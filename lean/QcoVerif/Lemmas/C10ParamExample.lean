import QcoVerif.Lemmas.C10ParamCheck
import QcoVerif.Lemmas.C10ParamBuild
import QcoVerif.Lemmas.GraphBuilt
/-
  C10, parametric layer lemmas: a concrete non-trivial world that satisfies the hypothesis bundles
  (non-vacuity of the theorems of Properties/C10.lean, section "Parametric layer theorems").

  `ddDemo`: the refocusing layer of a QEC round on one ancilla (qubit 1) and one data qubit (qubit 0), as
  `get_circuit_qec_round_with_dynamical_decoupling` lays it out: a barrier on both qubits; below it the ancilla
  measurement (readout duration) and, on the data qubit, wait – Rx180 – wait (decoupling wait, microwave duration,
  decoupling wait); a closing barrier below the LAST wait.  Sub-circuit 0 contains the six operations.
-/
namespace Qco.C10Param.Example

open Qco Qco.C10 Qco.C10Param

def ddDemo : World :=
  { ops := #[ { cls := .comp, link := 0, graph := [⟨1, none, [0]⟩, ⟨2, some 1, [0, 0]⟩, ⟨3, some 1, [0, 1]⟩,
                  ⟨4, some 3, [0, 1, 0]⟩, ⟨5, some 4, [0, 1, 0, 0]⟩, ⟨6, some 5, [0, 1, 0, 0, 0]⟩] },
              { cls := .barrier, qs := [0, 1], dur := .fixed 4, link := 0 },
              { cls := .measure, qs := [1], dur := .glob .ro, link := 1 },
              { cls := .wait, qs := [0], dur := .decoupling, link := 2 },
              { cls := .rx180, qs := [0], dur := .glob .mw, link := 3 },
              { cls := .wait, qs := [0], dur := .decoupling, link := 4 },
              { cls := .barrier, qs := [0, 1], dur := .fixed 4, link := 5 } ],
    links := #[ {}, { refs := [1] }, { refs := [1] }, { refs := [3] }, { refs := [4] }, { refs := [5] } ] }

/-- first layer: the opening barrier (it carries the sub-circuit's link). -/
def ddL0 : LayerData := ⟨[[1]], [1]⟩
/-- below the barrier: the measurement and the refocusing path, which dominates; below its last wait: the closing
    barrier. -/
def ddRest : List LayerData := [⟨[[2], [3, 4, 5]], [3, 4, 5]⟩, ⟨[[6]], [6]⟩]

/-- readout 16, microwave 8 (decoupling wait 4), flux 8, reset 16 — the defaults, in units of 1/8. -/
def vDemo : Vars := ⟨4, 8, 8, 16⟩

theorem vDemo_nonneg : vDemo.Nonneg := ⟨by decide, by decide, by decide, by decide⟩

abbrev ddWorld : World := regimeA.world ddDemo vDemo

theorem ddDemo_cert : autoCert ddDemo 0 = [ddL0 :: ddRest] := by decide +kernel

theorem ddDemo_durs : LeafDurNonneg ddWorld :=
  dursNonnegB_sound (by decide +kernel) vDemo_nonneg (regimeA_valid vDemo_nonneg)

theorem ddDemo_block : BlockOk ddWorld 0 [ddL0 :: ddRest] 8 :=
  blockOkB_sound (w := ddDemo) (R := regimeA) (by decide +kernel) vDemo_nonneg (regimeA_valid vDemo_nonneg) ddDemo_durs

theorem ddDemo_seq : SeqOk ddWorld 0 ddL0 ddRest 8 :=
  seqOkB_sound (w := ddDemo) (R := regimeA) (by decide +kernel) vDemo_nonneg (regimeA_valid vDemo_nonneg) ddDemo_durs

theorem ddDemo_core : LayerCore ddWorld ddL0 := (ddDemo_seq.head ddDemo_block.notJe).core

theorem ddDemo_layers : Layers ddWorld 1 ddRest := ddDemo_seq.layers

theorem ddDemo_nested : Nested ddWorld (autoCert ddDemo) (ddWorld.ops.size + 2) 0 :=
  nestedB_sound vDemo_nonneg (regimeA_valid vDemo_nonneg) ddDemo_durs _ 0 (by decide +kernel)

theorem ddDemo_ok : layeredOk ddDemo regimeA (autoCert ddDemo) 0 = true ∧
    layeredOk ddDemo regimeB (autoCert ddDemo) 0 = true := ⟨by decide +kernel, by decide +kernel⟩

/-- the paths of the second layer are genuinely different in length: measurement 16, refocusing 4 + 8 + 4. -/
theorem ddDemo_times : End ddWorld 2 20 ∧ End ddWorld 5 20 ∧ Start ddWorld 6 20 ∧ End ddWorld 1 4 ∧
    Start ddWorld 4 8 := by
  refine ⟨⟨20, ?_⟩, ⟨20, ?_⟩, ⟨20, ?_⟩, ⟨20, ?_⟩, ⟨20, ?_⟩⟩ <;> decide +kernel

/-- `ddDemo` before the closing barrier is added: object 6 exists (no relation yet), sub-circuit 0 has five nodes. -/
def ddOpen : World :=
  { ops := #[ { cls := .comp, link := 0, graph := [⟨1, none, [0]⟩, ⟨2, some 1, [0, 0]⟩, ⟨3, some 1, [0, 1]⟩,
                  ⟨4, some 3, [0, 1, 0]⟩, ⟨5, some 4, [0, 1, 0, 0]⟩] },
              { cls := .barrier, qs := [0, 1], dur := .fixed 4, link := 0 },
              { cls := .measure, qs := [1], dur := .glob .ro, link := 1 },
              { cls := .wait, qs := [0], dur := .decoupling, link := 2 },
              { cls := .rx180, qs := [0], dur := .glob .mw, link := 3 },
              { cls := .wait, qs := [0], dur := .decoupling, link := 4 },
              { cls := .barrier, qs := [0, 1], dur := .fixed 4, link := 5 } ],
    links := #[ {}, { refs := [1] }, { refs := [1] }, { refs := [3] }, { refs := [4] }, {} ] }

/-- the listing of its relation tree (the literal is stored in listing order). -/
theorem ddOpen_listing : listing (ddOpen.op 0).graph = [1, 2, 3, 4, 5] := by
  have h : sortedEntries (ddOpen.op 0).graph = (ddOpen.op 0).graph :=
    sortedEntries_eq_of_perm (List.Perm.refl _) (by decide +kernel) (by decide +kernel)
  unfold listing
  rw [h]
  decide +kernel

/-- the model's `add` hangs the closing barrier below the last wait (the last node of the listing, a deepest node),
    and the relation tree becomes that of `ddDemo`. -/
theorem ddOpen_add : DirectFb (ddOpen.add 0 6) 5 6 ∧ ((ddOpen.add 0 6).op 0).graph = (ddDemo.op 0).graph := by
  have hlast : (listing (ddOpen.op 0).graph).getLast? = some 5 := by rw [ddOpen_listing]; rfl
  have hall : ∀ n ∈ listing (ddOpen.op 0).graph, matchesNode ddOpen (ddOpen.chansOf 6) n = true := by
    rw [ddOpen_listing]; decide +kernel
  obtain ⟨h1, h2, _⟩ := add_all_matching_below_last (w := ddOpen) (c := 0) (o := 6) (by decide +kernel)
    (by decide +kernel) (by decide) (by decide +kernel) hlast hall
  refine ⟨h1, ?_⟩
  rw [h2]
  decide +kernel

end Qco.C10Param.Example
