import QcoVerif.Lemmas.Evaluator
/-
  Relation links under the evaluator: the reference a group (latest-of) link picks, a plain link with a given
  reference (`DirectRel`), one FOLLOWED_BY step (`FbStep`), the start equation at a link whose reference is known, and
  the first operations of a block: operations that share a link object start together, and when they start with the
  block the earliest of their starts is the block's.
-/
namespace Qco.C10

open Qco

theorem RefV.multi {w : World} {l : Nat} {r : Option Nat} (h : RefV w l r)
    (hm : (w.lnk l).multi = true) (hne : (w.lnk l).refs ≠ []) :
    ∃ r' e', r = some r' ∧ End w r' e' ∧ ∀ x ∈ (w.lnk l).refs, ∃ e, End w x e ∧ e ≤ e' := by
  obtain ⟨f, hf⟩ := h
  cases f with
  | zero => rw [evRef.eq_1] at hf; cases hf
  | succ f =>
    rw [evRef_succ_some, hm] at hf
    cases hr : (w.lnk l).refs with
    | nil => exact absurd hr hne
    | cons r0 rs =>
      rw [hr] at hf
      obtain ⟨es, e0, h1, h2, hv⟩ := hf
      -- every pair of `es` is (reference, its end), and every reference has its pair
      have hes : ∀ p ∈ es, evEnd w f p.1 = some p.2 := by
        intro p hp
        obtain ⟨x, _, hfx⟩ := mapM_mem_right _ _ es h1 p hp
        obtain ⟨e, he, rfl⟩ := Option.map_eq_some_iff.mp hfx
        exact he
      have hbest : evEnd w f (pickLatest (r0, e0) es).1 = some (pickLatest (r0, e0) es).2 := by
        rcases (pickLatest_spec (r0, e0) es).1 with hb | hb
        · rw [hb]; exact h2
        · exact hes _ hb
      refine ⟨_, _, hv.symm, ⟨f, hbest⟩, ?_⟩
      intro x hx
      obtain ⟨p, hp, hfx⟩ := mapM_mem_left _ _ es h1 x hx
      obtain ⟨e, he, rfl⟩ := Option.map_eq_some_iff.mp hfx
      exact ⟨e, ⟨f, he⟩, (pickLatest_spec (r0, e0) es).2.2 _ hp⟩

theorem refV_multi_singleton {w : World} {l : Nat} {r : Option Nat} {a : Nat} (h : RefV w l r)
    (hm : (w.lnk l).multi = true) (hr : (w.lnk l).refs = [a]) : r = some a := by
  obtain ⟨f, hf⟩ := h
  cases f with
  | zero => rw [evRef.eq_1] at hf; cases hf
  | succ f =>
    rw [evRef.eq_2, hm, hr] at hf
    simp only [Bool.not_true, Bool.false_eq_true, if_false] at hf
    cases h2 : evEnd w f a with
    | none => simp [h2] at hf
    | some e0 =>
      simp only [List.mapM_cons, List.mapM_nil, h2, Option.map_some, Option.pure_def, Option.bind_eq_bind,
        Option.bind_some, Option.some.injEq] at hf
      rw [← hf]
      simp only [pickLatest, List.foldl_cons, List.foldl_nil]
      split <;> rfl

def DirectRel (w : World) (rel : Rel) (a b : Nat) : Prop :=
  (w.lnk (w.op b).link).multi = false ∧ (w.lnk (w.op b).link).refs.head? = some a ∧
  (w.lnk (w.op b).link).rel = rel

/-- `b` is FOLLOWED_BY-linked to `a`: through a single link, or through a multi link (as created by
    `extend` when repetitions are unrolled) that lists `a` among its references. -/
def FbStep (w : World) (a b : Nat) : Prop :=
  (w.lnk (w.op b).link).rel = .fb ∧
  (((w.lnk (w.op b).link).multi = false ∧ (w.lnk (w.op b).link).refs.head? = some a) ∨
   ((w.lnk (w.op b).link).multi = true ∧ a ∈ (w.lnk (w.op b).link).refs))

theorem DirectRel.fbStep {w a b} (h : DirectRel w .fb a b) : FbStep w a b :=
  ⟨h.2.2, Or.inl ⟨h.1, h.2.1⟩⟩

theorem start_eq_linkStart {w : World} {o r : Nat} {s : Int} (h : Start w o s) (hr : RefV w (w.op o).link (some r)) :
    ∃ d sr er, DurV w o d ∧ Start w r sr ∧ End w r er ∧
      s = linkStart (w.lnk (w.op o).link).rel (some (sr, er)) d := by
  obtain ⟨d, r0, hd, hrv, hcase⟩ := Start.decompose h
  cases RefV.unique hrv hr
  rcases hcase with ⟨hn, _⟩ | ⟨r', sr, er, hr', hsr, her, hs⟩
  · cases hn
  · cases hr'
    exact ⟨d, sr, er, hd, hsr, her, hs⟩

theorem start_of_direct {w : World} {rel : Rel} {a b : Nat} (h : DirectRel w rel a b) {sb : Int}
    (hb : Start w b sb) :
    ∃ sa ea d, Start w a sa ∧ End w a ea ∧ DurV w b d ∧ sb = linkStart rel (some (sa, ea)) d := by
  obtain ⟨_, r, _, hr, _⟩ := hb.decompose
  rw [hr.single h.1, h.2.1] at hr
  obtain ⟨d, sa, ea, hd, hs, he, heq⟩ := start_eq_linkStart hb hr
  exact ⟨sa, ea, d, hs, he, hd, by rw [heq, h.2.2]⟩

theorem fbStep_end_le_start {w : World} {a b : Nat} (h : FbStep w a b) {sb : Int} (hb : Start w b sb) :
    ∃ ea, End w a ea ∧ ea ≤ sb := by
  obtain ⟨hrel, hkind⟩ := h
  rcases hkind with ⟨hs, hhead⟩ | ⟨hm, hmem⟩
  · obtain ⟨sa, ea, d, _, hea, _, heq⟩ := start_of_direct (rel := .fb) ⟨hs, hhead, hrel⟩ hb
    exact ⟨ea, hea, by rw [heq]; exact Int.le_refl _⟩
  · obtain ⟨d, r, _, hr, hcase⟩ := hb.decompose
    obtain ⟨r', e', hr', he', hall⟩ := hr.multi hm (List.ne_nil_of_mem hmem)
    rcases hcase with ⟨hnone, _⟩ | ⟨r'', sr, er, hsome, _, he, heq⟩
    · rw [hnone] at hr'; cases hr'
    · rw [hsome] at hr'
      cases hr'
      have : er = e' := he.unique he'
      obtain ⟨e, hea, hle⟩ := hall a hmem
      refine ⟨e, hea, ?_⟩
      rw [heq, hrel]
      simp only [linkStart]
      omega

theorem same_link_same_start {w : World} {x y : Nat} (hl : (w.op x).link = (w.op y).link)
    (hje : (w.lnk (w.op y).link).rel ≠ .je) {sx sy : Int} (hx : Start w x sx) (hy : Start w y sy) : sx = sy := by
  obtain ⟨d1, r1, _, hr1, hcase1⟩ := hx.decompose
  obtain ⟨d2, r2, _, hr2, hcase2⟩ := hy.decompose
  rw [hl] at hr1 hcase1
  have hr : r1 = r2 := hr1.unique hr2
  subst hr
  rcases hcase1 with ⟨hn1, e1⟩ | ⟨r', sr, er, hs1, hsr, her, e1⟩
  · rcases hcase2 with ⟨_, e2⟩ | ⟨r'', _, _, hs2, _, _, _⟩
    · rw [e1, e2]; rfl
    · rw [hn1] at hs2; cases hs2
  · rcases hcase2 with ⟨hn2, _⟩ | ⟨r'', sr', er', hs2, hsr', her', e2⟩
    · rw [hn2] at hs1; cases hs1
    · rw [hs1] at hs2; cases hs2
      have := hsr.unique hsr'; have := her.unique her'
      subst_vars
      cases hrel : (w.lnk (w.op y).link).rel with
      | fb => simp [linkStart]
      | js => simp [linkStart]
      | je => exact absurd hrel hje

/-- `hs` with `h1`, `h2`: the starts of the first operations of `c`, in the form in which `LeadSpanV.comp` gives
    them. -/
theorem minOf_heads_eq_start {w : World} {c : Nat} (hheadsne : heads (w.op c).graph ≠ [])
    (hheads : ∀ h ∈ heads (w.op c).graph, ∀ sh sc, Start w h sh → Start w c sc → sh = sc) {hs : List Int}
    (h1 : ∀ n ∈ heads (w.op c).graph, ∃ s ∈ hs, Start w n s)
    (h2 : ∀ s ∈ hs, ∃ n ∈ heads (w.op c).graph, Start w n s)
    {sc : Int} (hsc : Start w c sc) : minOf hs = sc := by
  have hsne : hs ≠ [] := by
    cases hh : heads (w.op c).graph with
    | nil => exact absurd hh hheadsne
    | cons x xs =>
      obtain ⟨s, hs', _⟩ := h1 x (by rw [hh]; exact List.mem_cons_self)
      exact List.ne_nil_of_mem hs'
  obtain ⟨n', hn', hs'⟩ := h2 _ (minOf_mem hsne)
  exact hheads n' hn' _ _ hs' hsc

end Qco.C10
