import QcoVerif.Lemmas.Unroll
/-
  Tree-shaped heaps (the hypothesis of the nested unrolling theorem, Lemmas/UnrollNested.lean): the separation predicate
  `TreeBelow` and the count-expanded leaf signatures `World.expand`.  These notions only read the objects below, and of
  them everything but the links (`congr_below`); so an update that only allocates (`NoWrite`) keeps every tree, and one
  that appends separated trees to a composite (`Appends`: `add`, `extend`) keeps the tree it is applied to
  (`Appends.forest`, `Appends.tree`).  Core Lean only.
-/
namespace Qco

/-- the link-independent signature of a leaf operation. -/
structure Sig where
  cls : Cls
  qs : List Int
  chan : Chan
  dur : Dur
  tag : Nat
  ints : List (Option Int)
  deriving DecidableEq, Repr

def Op.sig (o : Op) : Sig := ⟨o.cls, o.qs, o.chan, o.dur, o.tag, o.ints⟩

/-- the per-class `copy()` keeps the signature of this operation (true of everything the constructors produce:
    `C06.leaf_copy_keeps_signature`). -/
def Op.CopyStable (o : Op) : Prop := o.copyFields.sig = o.sig

theorem sig_noLink (o : Op) : o.noLink.sig = o.sig := rfl

theorem sig_of_noLink {a b : Op} (h : a.noLink = b.noLink) : a.sig = b.sig := by
  rw [← sig_noLink a, h, sig_noLink]

theorem copyFields_noLink (o : Op) : o.noLink.copyFields = o.copyFields := by
  cases o with
  | mk cls qs chan dur link tag reg ints rep graph =>
    cases cls <;> rfl

theorem copyStable_of_noLink {a b : Op} (h : a.noLink = b.noLink) (hb : b.CopyStable) : a.CopyStable := by
  unfold Op.CopyStable at hb ⊢
  rw [← copyFields_noLink a, h, copyFields_noLink, sig_of_noLink h]
  exact hb

theorem copyFields_idem (o : Op) (l r : Nat) :
    ({ o.copyFields with link := l, reg := r } : Op).copyFields.sig = o.copyFields.sig := by
  cases o with
  | mk cls qs chan dur link tag reg ints rep graph =>
    cases cls <;> rfl

/-- the nodes of a composite, in insertion order. -/
def World.kids (w : World) (o : Nat) : List Nat := (w.op o).graph.map (·.node)

/-- the objects at and below `o` (fuel = depth bound). -/
def World.below (w : World) : Nat → Nat → List Nat
  | 0, _ => []
  | f+1, o => o :: (if (w.op o).isComp then (w.kids o).flatMap (w.below f) else [])

/-- the count-expanded leaf signatures at and below `o`: a leaf gives its signature, a composite the signatures of its
    nodes (insertion order) repeated `max 1 count` times (`apply_modifiers` makes `count - 1` extra copies: a count of
    `0` behaves like `1`). -/
def World.expand (w : World) : Nat → Nat → List Sig
  | 0, _ => []
  | f+1, o =>
    if (w.op o).isComp then repeatList (max 1 (w.repCount (w.op o).rep)) ((w.kids o).flatMap (w.expand f))
    else [(w.op o).sig]

/-- the same expansion under an ARBITRARY assignment `cnt` of multiplicities to repetition strategies (used to state that
    a copy has the same strategy at every level: its expansions agree with the original's for every `cnt`). -/
def World.expandWith (w : World) (cnt : Rep → Nat) : Nat → Nat → List Sig
  | 0, _ => []
  | f+1, o =>
    if (w.op o).isComp then repeatList (cnt (w.op o).rep) ((w.kids o).flatMap (w.expandWith cnt f))
    else [(w.op o).sig]

/-- one pass over the nodes of `o` (without the count of `o` itself). -/
def World.content (w : World) (f o : Nat) : List Sig := (w.kids o).flatMap (w.expand f)

/-- **tree shape / separation**: `o` is an object of the heap; a composite's nodes are pairwise distinct, each is the
    root of a tree not containing `o`, and the trees of distinct nodes share no object; a leaf's class copy keeps its
    signature; the nesting depth is at most the fuel. -/
def TreeBelow (w : World) : Nat → Nat → Prop
  | 0, _ => False
  | f+1, o => o < w.ops.size ∧
      (((w.op o).isComp = true ∧ (w.kids o).Nodup ∧
        (∀ n ∈ w.kids o, TreeBelow w f n ∧ o ∉ w.below f n) ∧
        (∀ a ∈ w.kids o, ∀ b ∈ w.kids o, a ≠ b → ∀ j, j ∈ w.below f a → j ∉ w.below f b))
      ∨ ((w.op o).isComp = false ∧ (w.op o).CopyStable))

/-- every composite at or below `o` has the fixed repetition count 1. -/
def AllOnes (w : World) : Nat → Nat → Prop
  | 0, _ => True
  | f+1, o => (w.op o).isComp = true → (w.op o).rep = .fixed 1 ∧ ∀ n ∈ w.kids o, AllOnes w f n

theorem expand_comp (w : World) (f o : Nat) (h : (w.op o).isComp = true) :
    w.expand (f + 1) o = repeatList (max 1 (w.repCount (w.op o).rep)) (w.content f o) := by
  simp only [World.expand, h, if_true, World.content]

theorem expand_leaf (w : World) (f o : Nat) (h : (w.op o).isComp = false) :
    w.expand (f + 1) o = [(w.op o).sig] := by
  simp [World.expand, h]

theorem expandWith_comp (w : World) (cnt : Rep → Nat) (f o : Nat) (h : (w.op o).isComp = true) :
    w.expandWith cnt (f + 1) o = repeatList (cnt (w.op o).rep) ((w.kids o).flatMap (w.expandWith cnt f)) := by
  rw [World.expandWith, if_pos h]

theorem expandWith_leaf (w : World) (cnt : Rep → Nat) (f o : Nat) (h : (w.op o).isComp = false) :
    w.expandWith cnt (f + 1) o = [(w.op o).sig] := by
  rw [World.expandWith, if_neg (by rw [h]; exact Bool.false_ne_true)]

theorem below_comp (w : World) (f o : Nat) (h : (w.op o).isComp = true) :
    w.below (f + 1) o = o :: (w.kids o).flatMap (w.below f) := by
  simp only [World.below, h, if_true]

theorem below_leaf (w : World) (f o : Nat) (h : (w.op o).isComp = false) : w.below (f + 1) o = [o] := by
  simp [World.below, h]

theorem self_mem_below (w : World) (f o : Nat) : o ∈ w.below (f + 1) o := by
  simp [World.below]

theorem below_kid (w : World) (f o n j : Nat) (h : (w.op o).isComp = true) (hn : n ∈ w.kids o)
    (hj : j ∈ w.below f n) : j ∈ w.below (f + 1) o := by
  rw [below_comp w f o h]
  exact List.mem_cons_of_mem _ (List.mem_flatMap.mpr ⟨n, hn, hj⟩)

theorem mem_below_comp (w : World) (f o j : Nat) (h : (w.op o).isComp = true) :
    j ∈ w.below (f + 1) o ↔ j = o ∨ ∃ n ∈ w.kids o, j ∈ w.below f n := by
  rw [below_comp w f o h, List.mem_cons, List.mem_flatMap]

theorem TreeBelow.pos {w : World} {f o : Nat} (h : TreeBelow w f o) : 0 < f := by
  cases f with
  | zero => exact h.elim
  | succ f => omega

theorem TreeBelow.lt {w : World} {f o : Nat} (h : TreeBelow w f o) : o < w.ops.size := by
  cases f with
  | zero => exact h.elim
  | succ f => exact h.1

theorem TreeBelow.self_mem {w : World} {f o : Nat} (h : TreeBelow w f o) : o ∈ w.below f o := by
  cases f with
  | zero => exact h.elim
  | succ f => exact self_mem_below w f o

theorem TreeBelow.leaf_intro {w : World} {f o : Nat} (h1 : o < w.ops.size) (h2 : (w.op o).isComp = false)
    (h3 : (w.op o).CopyStable) : TreeBelow w (f + 1) o := ⟨h1, Or.inr ⟨h2, h3⟩⟩

theorem TreeBelow.comp_intro {w : World} {f o : Nat} (h1 : o < w.ops.size) (h2 : (w.op o).isComp = true)
    (h3 : (w.kids o).Nodup) (h4 : ∀ n ∈ w.kids o, TreeBelow w f n) (h5 : ∀ n ∈ w.kids o, o ∉ w.below f n)
    (h6 : ∀ a ∈ w.kids o, ∀ b ∈ w.kids o, a ≠ b → ∀ j, j ∈ w.below f a → j ∉ w.below f b) :
    TreeBelow w (f + 1) o := ⟨h1, Or.inl ⟨h2, h3, fun n hn => ⟨h4 n hn, h5 n hn⟩, h6⟩⟩

theorem TreeBelow.stable {w : World} {f o : Nat} (h : TreeBelow w f o) (hl : (w.op o).isComp = false) :
    (w.op o).CopyStable := by
  cases f with
  | zero => exact h.elim
  | succ f =>
    rcases h.2 with h | h
    · rw [h.1] at hl; cases hl
    · exact h.2

theorem TreeBelow.comp_elim {w : World} {f o : Nat} (h : TreeBelow w (f + 1) o) (hc : (w.op o).isComp = true) :
    (w.kids o).Nodup ∧ (∀ n ∈ w.kids o, TreeBelow w f n ∧ o ∉ w.below f n) ∧
    (∀ a ∈ w.kids o, ∀ b ∈ w.kids o, a ≠ b → ∀ j, j ∈ w.below f a → j ∉ w.below f b) := by
  rcases h.2 with h | h
  · exact h.2
  · rw [h.1] at hc; cases hc

theorem TreeBelow.kids_nodup {w : World} {f o : Nat} (h : TreeBelow w (f + 1) o) (hc : (w.op o).isComp = true) :
    (w.kids o).Nodup := (h.comp_elim hc).1

theorem TreeBelow.kid {w : World} {f o n : Nat} (h : TreeBelow w (f + 1) o) (hc : (w.op o).isComp = true)
    (hn : n ∈ w.kids o) : TreeBelow w f n := ((h.comp_elim hc).2.1 n hn).1

theorem TreeBelow.not_below_kid {w : World} {f o n : Nat} (h : TreeBelow w (f + 1) o) (hc : (w.op o).isComp = true)
    (hn : n ∈ w.kids o) : o ∉ w.below f n := ((h.comp_elim hc).2.1 n hn).2

theorem TreeBelow.disj {w : World} {f o a b : Nat} (h : TreeBelow w (f + 1) o) (hc : (w.op o).isComp = true)
    (ha : a ∈ w.kids o) (hb : b ∈ w.kids o) (hab : a ≠ b) : ∀ j, j ∈ w.below f a → j ∉ w.below f b :=
  (h.comp_elim hc).2.2 a ha b hb hab

theorem below_lt (w : World) : ∀ (f o : Nat), TreeBelow w f o → ∀ j ∈ w.below f o, j < w.ops.size := by
  intro f
  induction f with
  | zero => intro o h; exact h.elim
  | succ f ih =>
    intro o h j hj
    by_cases hc : (w.op o).isComp = true
    · rw [mem_below_comp w f o j hc] at hj
      rcases hj with rfl | ⟨n, hn, hj⟩
      · exact h.1
      · exact ih n (h.kid hc hn) j hj
    · have hc' : (w.op o).isComp = false := by simpa using hc
      rw [below_leaf w f o hc'] at hj
      simp only [List.mem_singleton] at hj
      subst hj; exact h.1

theorem kids_of_noLink {a b : Op} (h : a.noLink = b.noLink) : a.graph.map (·.node) = b.graph.map (·.node) := by
  rw [noLink_graph h]

/-- **the objects at or below `o` are all these notions read**, and of them everything but the links: if `w'` agrees with `w`
    up to links on these objects, then the objects below `o`, its expansion (for any multiplicities), tree shape and
    `AllOnes` are in `w'` what they are in `w`. -/
theorem congr_below (w w' : World) : ∀ (f o : Nat), (∀ j ∈ w.below f o, (w'.op j).noLink = (w.op j).noLink) →
    w'.below f o = w.below f o ∧ (∀ cnt, w'.expandWith cnt f o = w.expandWith cnt f o) ∧
    (w.ops.size ≤ w'.ops.size → TreeBelow w f o → TreeBelow w' f o) ∧ (AllOnes w f o → AllOnes w' f o) := by
  intro f
  induction f with
  | zero => intro o _; exact ⟨rfl, fun _ => rfl, fun _ h => h.elim, fun _ => trivial⟩
  | succ f ih =>
    intro o h
    have ho := h o (self_mem_below w f o)
    have hk : w'.kids o = w.kids o := kids_of_noLink ho
    by_cases hc : (w.op o).isComp = true
    · have hc' : (w'.op o).isComp = true := by rw [noLink_isComp ho]; exact hc
      have ihk := fun n (hn : n ∈ w.kids o) => ih n (fun j hj => h j (below_kid w f o n j hc hn hj))
      refine ⟨?_, ?_, ?_, ?_⟩
      · rw [below_comp w f o hc, below_comp w' f o hc', hk]
        exact congrArg _ (flatMap_congr' (fun n hn => (ihk n hn).1))
      · intro cnt
        rw [expandWith_comp w cnt f o hc, expandWith_comp w' cnt f o hc', noLink_rep ho, hk]
        exact congrArg _ (flatMap_congr' (fun n hn => (ihk n hn).2.1 cnt))
      · intro hs ht
        refine TreeBelow.comp_intro (Nat.lt_of_lt_of_le ht.1 hs) hc' (hk ▸ ht.kids_nodup hc) ?_ ?_ ?_
        · intro n hn
          rw [hk] at hn
          exact (ihk n hn).2.2.1 hs (ht.kid hc hn)
        · intro n hn
          rw [hk] at hn
          rw [(ihk n hn).1]; exact ht.not_below_kid hc hn
        · intro a ha b hb hab
          rw [hk] at ha hb
          rw [(ihk a ha).1, (ihk b hb).1]
          exact ht.disj hc ha hb hab
      · intro ha _
        obtain ⟨h1, h2⟩ := ha hc
        refine ⟨by rw [noLink_rep ho]; exact h1, ?_⟩
        intro n hn
        rw [hk] at hn
        exact (ihk n hn).2.2.2 (h2 n hn)
    · have hc0 : (w.op o).isComp = false := by simpa using hc
      have hc' : (w'.op o).isComp = false := by rw [noLink_isComp ho]; exact hc0
      refine ⟨by rw [below_leaf w f o hc0, below_leaf w' f o hc'], ?_, ?_, ?_⟩
      · intro cnt
        rw [expandWith_leaf w cnt f o hc0, expandWith_leaf w' cnt f o hc', sig_of_noLink ho]
      · intro hs ht
        exact TreeBelow.leaf_intro (Nat.lt_of_lt_of_le ht.1 hs) hc' (copyStable_of_noLink ho (ht.stable hc0))
      · intro _ hcomp
        rw [hc'] at hcomp; cases hcomp

theorem below_congr (w w' : World) (f o : Nat) (h : ∀ j ∈ w.below f o, (w'.op j).noLink = (w.op j).noLink) :
    w'.below f o = w.below f o := (congr_below w w' f o h).1

theorem expandWith_congr (w w' : World) (cnt : Rep → Nat) (f o : Nat)
    (h : ∀ j ∈ w.below f o, (w'.op j).noLink = (w.op j).noLink) : w'.expandWith cnt f o = w.expandWith cnt f o :=
  (congr_below w w' f o h).2.1 cnt

theorem tree_congr (w w' : World) (hs : w.ops.size ≤ w'.ops.size) (f o : Nat) (ht : TreeBelow w f o)
    (h : ∀ j ∈ w.below f o, (w'.op j).noLink = (w.op j).noLink) : TreeBelow w' f o :=
  (congr_below w w' f o h).2.2.1 hs ht

theorem allOnes_congr (w w' : World) (f o : Nat) (ha : AllOnes w f o)
    (h : ∀ j ∈ w.below f o, (w'.op j).noLink = (w.op j).noLink) : AllOnes w' f o :=
  (congr_below w w' f o h).2.2.2 ha

theorem expand_eq_expandWith (w : World) : ∀ (f o : Nat),
    w.expand f o = w.expandWith (fun r => max 1 (w.repCount r)) f o := by
  intro f
  induction f with
  | zero => intro o; rfl
  | succ f ih =>
    intro o
    simp only [World.expand, World.expandWith]
    rw [flatMap_congr' (fun n _ => ih n)]

theorem expand_congr (w w' : World) (hr : w'.rreg = w.rreg) (f o : Nat)
    (h : ∀ j ∈ w.below f o, (w'.op j).noLink = (w.op j).noLink) : w'.expand f o = w.expand f o := by
  have hcnt : (fun r => max 1 (w'.repCount r)) = fun r => max 1 (w.repCount r) := by
    funext r; unfold World.repCount; rw [hr]
  rw [expand_eq_expandWith, hcnt, expandWith_congr w w' _ f o h, ← expand_eq_expandWith]

theorem content_congr (w w' : World) (hr : w'.rreg = w.rreg) (f o : Nat) (hc : (w.op o).isComp = true)
    (h : ∀ j ∈ w.below (f + 1) o, (w'.op j).noLink = (w.op j).noLink) : w'.content f o = w.content f o := by
  unfold World.content
  rw [show w'.kids o = w.kids o from kids_of_noLink (h o (self_mem_below w f o))]
  exact flatMap_congr' (fun n hn => expand_congr w w' hr f n (fun j hj => h j (below_kid w f o n j hc hn hj)))

/-- a list of pairwise separated trees (the nodes of a composite of a tree-shaped heap). -/
structure Forest (w : World) (f : Nat) (K : List Nat) : Prop where
  nodup : K.Nodup
  tree : ∀ n ∈ K, TreeBelow w f n
  disj : ∀ a ∈ K, ∀ b ∈ K, a ≠ b → ∀ j, j ∈ w.below f a → j ∉ w.below f b

theorem Forest.nil (w : World) (f : Nat) : Forest w f [] :=
  ⟨List.nodup_nil, fun _ h => (by cases h), fun _ h _ _ _ => (by cases h)⟩

theorem TreeBelow.forest {w : World} {f o : Nat} (h : TreeBelow w (f + 1) o) (hc : (w.op o).isComp = true) :
    Forest w f (w.kids o) :=
  ⟨h.kids_nodup hc, fun _ hn => h.kid hc hn, fun _ ha _ hb hab => h.disj hc ha hb hab⟩

theorem TreeBelow.of_forest {w : World} {f o : Nat} (h1 : o < w.ops.size) (h2 : (w.op o).isComp = true)
    (h3 : Forest w f (w.kids o)) (h4 : ∀ n ∈ w.kids o, o ∉ w.below f n) : TreeBelow w (f + 1) o :=
  TreeBelow.comp_intro h1 h2 h3.nodup h3.tree h4 h3.disj

theorem Forest.congr {w w' : World} {f : Nat} {K : List Nat} (h : Forest w f K) (hs : w.ops.size ≤ w'.ops.size)
    (hsame : ∀ n ∈ K, ∀ j ∈ w.below f n, (w'.op j).noLink = (w.op j).noLink) :
    Forest w' f K ∧ ∀ n ∈ K, w'.below f n = w.below f n := by
  have hb : ∀ n ∈ K, w'.below f n = w.below f n := fun n hn => below_congr w w' f n (hsame n hn)
  refine ⟨⟨h.nodup, fun n hn => tree_congr w w' hs f n (h.tree n hn) (hsame n hn), ?_⟩, hb⟩
  intro a ha b hb' hab
  rw [hb a ha, hb b hb']
  exact h.disj a ha b hb' hab

theorem Forest.append {w : World} {f : Nat} {K1 K2 : List Nat} (h1 : Forest w f K1) (h2 : Forest w f K2)
    (hd : ∀ a ∈ K1, ∀ b ∈ K2, ∀ j, j ∈ w.below f a → j ∉ w.below f b) : Forest w f (K1 ++ K2) := by
  refine ⟨?_, ?_, ?_⟩
  · rw [List.nodup_append]
    refine ⟨h1.nodup, h2.nodup, ?_⟩
    intro a ha b hb hab
    subst hab
    exact hd a ha a hb a (h1.tree a ha).self_mem (h2.tree a hb).self_mem
  · intro n hn
    rcases List.mem_append.mp hn with hn | hn
    · exact h1.tree n hn
    · exact h2.tree n hn
  · intro a ha b hb hab j hja hjb
    rcases List.mem_append.mp ha with ha | ha <;> rcases List.mem_append.mp hb with hb | hb
    · exact h1.disj a ha b hb hab j hja hjb
    · exact hd a ha b hb j hja hjb
    · exact hd b hb a ha j hjb hja
    · exact h2.disj a ha b hb hab j hja hjb

theorem Forest.perm {w : World} {f : Nat} {K1 K2 : List Nat} (h : Forest w f K1) (hp : K1.Perm K2) : Forest w f K2 :=
  ⟨hp.nodup_iff.mp h.nodup, fun n hn => h.tree n (hp.mem_iff.mpr hn),
    fun a ha b hb hab => h.disj a (hp.mem_iff.mpr ha) b (hp.mem_iff.mpr hb) hab⟩

theorem Forest.single {w : World} {f n : Nat} (h : TreeBelow w f n) : Forest w f [n] := by
  refine ⟨by simp, ?_, ?_⟩
  · intro m hm; simp only [List.mem_singleton] at hm; subst hm; exact h
  · intro a ha b hb hab
    simp only [List.mem_singleton] at ha hb
    exact absurd (ha.trans hb.symm) hab

theorem op_eq_noLink {w w' : World} {j : Nat} (h : w'.op j = w.op j) : (w'.op j).noLink = (w.op j).noLink := by
  rw [h]

theorem NoWrite.same_below {w w' : World} (h : NoWrite w w') {f o : Nat} (ht : TreeBelow w f o) :
    ∀ j ∈ w.below f o, (w'.op j).noLink = (w.op j).noLink :=
  fun j hj => op_eq_noLink (h.old j (below_lt w f o ht j hj))

theorem NoWrite.keeps {w w' : World} (h : NoWrite w w') {f o : Nat} (ht : TreeBelow w f o) :
    TreeBelow w' f o ∧ w'.below f o = w.below f o ∧ w'.expand f o = w.expand f o ∧
    (AllOnes w f o → AllOnes w' f o) :=
  have hsame := h.same_below ht
  ⟨tree_congr w w' h.size f o ht hsame, below_congr w w' f o hsame, expand_congr w w' h.rreg f o hsame,
    fun ha => allOnes_congr w w' f o ha hsame⟩

theorem NoWrite.keeps_forest {w w' : World} (h : NoWrite w w') {f : Nat} {K : List Nat} (hF : Forest w f K) :
    Forest w' f K ∧ ∀ n ∈ K, w'.below f n = w.below f n ∧ w'.expand f n = w.expand f n ∧
      ∀ cnt, w'.expandWith cnt f n = w.expandWith cnt f n := by
  have hsame := fun n (hn : n ∈ K) => h.same_below (hF.tree n hn)
  obtain ⟨hF', hb⟩ := hF.congr h.size hsame
  exact ⟨hF', fun n hn => ⟨hb n hn, expand_congr w w' h.rreg f n (hsame n hn),
    fun cnt => expandWith_congr w w' cnt f n (hsame n hn)⟩⟩

/-- **hanging separated trees under a composite.**  If `w'` is `w` with the nodes `K` appended to `c`, the nodes of `c` and `K` are
    forests sharing no object and `c` lies in none of these trees, then in `w'` the nodes of `c` form a forest, and every one
    of these trees has the objects and the expansions it had (only `c` was written, apart from links). -/
theorem Appends.forest {w w' : World} {c f : Nat} {K : List Nat} (h : Appends w c K w')
    (hF : Forest w f (w.kids c)) (hK : Forest w f K) (hcK : ∀ n ∈ w.kids c ++ K, c ∉ w.below f n)
    (hd : ∀ a ∈ w.kids c, ∀ b ∈ K, ∀ j, j ∈ w.below f a → j ∉ w.below f b) :
    w'.kids c = w.kids c ++ K ∧ Forest w' f (w.kids c ++ K) ∧
    ∀ n ∈ w.kids c ++ K, w'.below f n = w.below f n ∧ w'.expand f n = w.expand f n ∧
      ∀ cnt, w'.expandWith cnt f n = w.expandWith cnt f n := by
  have hsame : ∀ n ∈ w.kids c ++ K, ∀ j ∈ w.below f n, (w'.op j).noLink = (w.op j).noLink :=
    fun n hn j hj => h.other j (fun e => hcK n hn (e ▸ hj))
  obtain ⟨hF', hb⟩ := (hF.append hK hd).congr (Nat.le_of_eq h.size.symm) hsame
  exact ⟨h.nodes, hF', fun n hn => ⟨hb n hn, expand_congr w w' h.rreg f n (hsame n hn),
    fun cnt => expandWith_congr w w' cnt f n (hsame n hn)⟩⟩

/-- the same for a tree `c`, when the appended trees share no object with it: `c` is still a tree, its content gains the
    expansions of the appended nodes, and the objects below it are those it had and those of the appended trees. -/
theorem Appends.tree {w w' : World} {c f : Nat} {K : List Nat} (h : Appends w c K w') (ht : TreeBelow w (f + 1) c)
    (hcc : (w.op c).isComp = true) (hK : Forest w f K)
    (hd : ∀ n ∈ K, ∀ j, j ∈ w.below (f + 1) c → j ∉ w.below f n) :
    TreeBelow w' (f + 1) c ∧ w'.content f c = w.content f c ++ K.flatMap (w.expand f) ∧
    (∀ j ∈ w'.below (f + 1) c, j ∈ w.below (f + 1) c ∨ ∃ n ∈ K, j ∈ w.below f n) := by
  have hcK : ∀ n ∈ w.kids c ++ K, c ∉ w.below f n := by
    intro n hn
    rcases List.mem_append.mp hn with hn | hn
    · exact ht.not_below_kid hcc hn
    · exact hd n hn c (self_mem_below w f c)
  obtain ⟨k1, k2, k3⟩ := h.forest (ht.forest hcc) hK hcK
    (fun a ha b hb j hja => hd b hb j (below_kid w f c a j hcc ha hja))
  have hcomp' : (w'.op c).isComp = true := h.isComp.trans hcc
  refine ⟨TreeBelow.of_forest (by rw [h.size]; exact ht.lt) hcomp' (k1 ▸ k2) ?_, ?_, ?_⟩
  · intro n hn hmem
    rw [k1] at hn
    rw [(k3 n hn).1] at hmem
    exact hcK n hn hmem
  · unfold World.content
    rw [k1, List.flatMap_append, flatMap_congr' (fun n hn => (k3 n (List.mem_append_left _ hn)).2.1),
      flatMap_congr' (fun n hn => (k3 n (List.mem_append_right _ hn)).2.1)]
  · intro j hj
    rw [mem_below_comp w' f c j hcomp'] at hj
    rcases hj with rfl | ⟨n, hn, hj⟩
    · exact Or.inl (self_mem_below w f _)
    · rw [k1] at hn
      rw [(k3 n hn).1] at hj
      rcases List.mem_append.mp hn with hn | hn
      · exact Or.inl (below_kid w f c n j hcc hn hj)
      · exact Or.inr ⟨n, hn, hj⟩

theorem add_kids (w : World) (c o : Nat) (hc : c < w.ops.size) : (w.add c o).kids c = w.kids c ++ [o] :=
  (add_appends w c o hc).nodes

theorem extend_kids (w : World) (c other : Nat) (hc : c < w.ops.size) :
    (w.extend c other).kids c = w.kids c ++ listing (w.op other).graph :=
  (extend_appends w c other hc).nodes

end Qco
