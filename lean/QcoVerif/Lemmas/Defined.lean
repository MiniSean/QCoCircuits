import QcoVerif.Lemmas.Evaluator
import QcoVerif.Lemmas.Graph
import QcoVerif.Lemmas.Heap
/-
  C01, definedness: on a heap that carries an acyclicity certificate (`Ranked w rk`: a rank of the objects that
  strictly decreases along "link → reference" and "composite → node of its graph") the specification evaluator
  `evStart / evEnd / evDur / evLeadSpan / evInterval` (Model/Timing.lean) answers `some _` as soon as the fuel is
  at least `4 * (B + 1)`, `B` a bound of the ranks.  A closed heap (every reference / node is an existing object)
  can always be re-ranked with ranks `≤ ops.size`, so that the driver's `World.fuel` suffices.

  The measure: a query about an object of rank `k` needs fuel
      leadSpan 4k+1,  dur 4k+2,  ref (of its link) 4k+1,  start 4k+3,  end 4k+4,  interval 4k+4.
-/
namespace Qco.Defined

open Qco Qco.C10

structure Ranked (w : World) (rk : Nat → Nat) : Prop where
  ref : ∀ o r, r ∈ (w.lnk (w.op o).link).refs → rk r < rk o
  node : ∀ o, (w.op o).isComp = true → ∀ e ∈ (w.op o).graph, rk e.node < rk o

def Acyclic (w : World) : Prop := ∃ rk, Ranked w rk

/-- well-formedness: every reference and every graph node is an existing object, every link field names an
    existing link (the default link `0` for the ids beyond the heap). -/
structure Closed (w : World) : Prop where
  ref : ∀ o r, r ∈ (w.lnk (w.op o).link).refs → r < w.ops.size
  node : ∀ o, ∀ e ∈ (w.op o).graph, e.node < w.ops.size
  link : ∀ o, (w.op o).link < w.links.size

theorem leadSpan_step (w : World) (f o : Nat)
    (h : (w.op o).isComp = true → ∀ n ∈ listing (w.op o).graph,
      (evStart w f n).isSome = true ∧ (evInterval w f n).isSome = true) :
    (evLeadSpan w (f+1) o).isSome = true := by
  by_cases hc : (w.op o).isComp = true
  · by_cases he : (w.op o).graph.isEmpty = true
    · exact Option.isSome_iff_exists.mpr ⟨_, evLeadSpan_succ_some.mpr (by rw [if_pos hc, if_pos he])⟩
    · obtain ⟨hs, e1⟩ := Option.isSome_iff_exists.mp
        (mapM_isSome (fun n => evStart w f n) _ (fun n hn => (h hc n (heads_subset_listing hn)).1))
      obtain ⟨ivs, e2⟩ := Option.isSome_iff_exists.mp
        (mapM_isSome (fun n => evInterval w f n) _ (fun n hn => (h hc n hn).2))
      exact Option.isSome_iff_exists.mpr
        ⟨_, evLeadSpan_succ_some.mpr (by rw [if_pos hc, if_neg he]; exact ⟨hs, ivs, e1, e2, rfl⟩)⟩
  · exact Option.isSome_iff_exists.mpr ⟨_, evLeadSpan_succ_some.mpr (by rw [if_neg hc])⟩

theorem dur_step (w : World) (f o : Nat) (h : (evLeadSpan w f o).isSome = true) :
    (evDur w (f+1) o).isSome = true := by
  obtain ⟨⟨l, d⟩, hv⟩ := Option.isSome_iff_exists.mp h
  exact Option.isSome_iff_exists.mpr ⟨d, evDur_succ_some.mpr ⟨l, hv⟩⟩

theorem interval_step (w : World) (f o : Nat) (hs : (evStart w f o).isSome = true)
    (hl : (evLeadSpan w f o).isSome = true) : (evInterval w (f+1) o).isSome = true := by
  obtain ⟨s, e1⟩ := Option.isSome_iff_exists.mp hs
  obtain ⟨⟨l, d⟩, e2⟩ := Option.isSome_iff_exists.mp hl
  exact Option.isSome_iff_exists.mpr ⟨_, evInterval_succ_some.mpr ⟨s, l, d, e1, e2, rfl⟩⟩

theorem end_step (w : World) (f o : Nat) (hs : (evStart w f o).isSome = true)
    (hd : (evDur w f o).isSome = true) : (evEnd w (f+1) o).isSome = true := by
  obtain ⟨s, e1⟩ := Option.isSome_iff_exists.mp hs
  obtain ⟨d, e2⟩ := Option.isSome_iff_exists.mp hd
  exact Option.isSome_iff_exists.mpr ⟨_, evEnd_succ_some.mpr ⟨s, d, e1, e2, rfl⟩⟩

theorem ref_step (w : World) (f l : Nat) (h : ∀ r ∈ (w.lnk l).refs, (evEnd w f r).isSome = true) :
    ∃ v, evRef w (f+1) l = some v ∧ ∀ r, v = some r → r ∈ (w.lnk l).refs := by
  by_cases hm : (!(w.lnk l).multi) = true
  · exact ⟨_, evRef_succ_some.mpr (by rw [if_pos hm]),
      fun r hr => List.mem_of_mem_head? (Option.mem_def.mpr hr)⟩
  · cases hr : (w.lnk l).refs with
    | nil => exact ⟨none, evRef_succ_some.mpr (by rw [if_neg hm, hr]), fun r hr => by cases hr⟩
    | cons r0 rs =>
      rw [hr] at h
      obtain ⟨es, hes⟩ := Option.isSome_iff_exists.mp
        (mapM_isSome (fun r => (evEnd w f r).map (fun e => (r, e))) (r0 :: rs) (fun r hrm => by
          obtain ⟨e, he⟩ := Option.isSome_iff_exists.mp (h r hrm)
          rw [he]; rfl))
      obtain ⟨e0, he0⟩ := Option.isSome_iff_exists.mp (h r0 List.mem_cons_self)
      refine ⟨_, evRef_succ_some.mpr (by rw [if_neg hm, hr]; exact ⟨es, e0, hes, he0, rfl⟩), ?_⟩
      -- the pick is `r0` or the first component of a pair of `es`, all of which are references
      intro r hrr
      rw [← Option.some.inj hrr]
      rcases (pickLatest_spec (r0, e0) es).1 with hp | hp
      · rw [hp]; exact List.mem_cons_self
      · obtain ⟨x, hx, hfx⟩ := mapM_mem_right _ _ es hes _ hp
        obtain ⟨e, _, hxe⟩ := Option.map_eq_some_iff.mp hfx
        rw [← hxe]; exact hx

theorem start_step (w : World) (f o : Nat) (hd : (evDur w f o).isSome = true)
    {v : Option Nat} (hr : evRef w f (w.op o).link = some v)
    (hv : ∀ r, v = some r → (evStart w f r).isSome = true ∧ (evEnd w f r).isSome = true) :
    (evStart w (f+1) o).isSome = true := by
  obtain ⟨d, e1⟩ := Option.isSome_iff_exists.mp hd
  cases v with
  | none => exact Option.isSome_iff_exists.mpr ⟨_, evStart_succ_some.mpr ⟨d, none, e1, hr, rfl⟩⟩
  | some r =>
    obtain ⟨s, e2⟩ := Option.isSome_iff_exists.mp (hv r rfl).1
    obtain ⟨e, e3⟩ := Option.isSome_iff_exists.mp (hv r rfl).2
    exact Option.isSome_iff_exists.mpr ⟨_, evStart_succ_some.mpr ⟨d, some r, e1, hr, s, e, e2, e3, rfl⟩⟩

theorem isSome_mono {α} {a b : Option α} (h : ∀ v, a = some v → b = some v) (ha : a.isSome = true) :
    b.isSome = true := by
  obtain ⟨v, hv⟩ := Option.isSome_iff_exists.mp ha
  rw [h v hv]; rfl

structure AllDef (w : World) (f o : Nat) : Prop where
  leadSpan : (evLeadSpan w f o).isSome = true
  interval : (evInterval w f o).isSome = true
  dur : (evDur w f o).isSome = true
  start : (evStart w f o).isSome = true
  fin : (evEnd w f o).isSome = true

theorem AllDef.mono {w : World} {f f' o : Nat} (h : AllDef w f o) (hle : f ≤ f') : AllDef w f' o := by
  obtain ⟨m1, m2, m3, m4, m5, _⟩ := ev_mono_le w hle
  exact ⟨isSome_mono (m1 o) h.leadSpan, isSome_mono (m2 o) h.interval, isSome_mono (m3 o) h.dur,
    isSome_mono (m4 o) h.start, isSome_mono (m5 o) h.fin⟩

/-- one rank level: if everything `o` depends on directly is defined with fuel `F`, then `o` is defined
    with fuel `F + 4`: (lead, span) and the reference at `F + 1`, the duration at `F + 2`, the start at `F + 3`, end and
    interval at `F + 4`. -/
theorem allDef_step (w : World) (F o : Nat)
    (hrefs : ∀ r ∈ (w.lnk (w.op o).link).refs, AllDef w F r)
    (hnodes : (w.op o).isComp = true → ∀ e ∈ (w.op o).graph, AllDef w F e.node) :
    AllDef w (F + 4) o := by
  have mLS : ∀ {a b : Nat}, a ≤ b → (evLeadSpan w a o).isSome = true → (evLeadSpan w b o).isSome = true :=
    fun h => isSome_mono ((ev_mono_le w h).1 o)
  have mD : ∀ {a b : Nat}, a ≤ b → (evDur w a o).isSome = true → (evDur w b o).isSome = true :=
    fun h => isSome_mono ((ev_mono_le w h).2.2.1 o)
  have mS : ∀ {a b : Nat}, a ≤ b → (evStart w a o).isSome = true → (evStart w b o).isSome = true :=
    fun h => isSome_mono ((ev_mono_le w h).2.2.2.1 o)
  have hLS : (evLeadSpan w (F+1) o).isSome = true := by
    apply leadSpan_step
    intro hc n hn
    obtain ⟨e, he, rfl⟩ := mem_listing_iff.mp hn
    exact ⟨(hnodes hc e he).start, (hnodes hc e he).interval⟩
  have hD : (evDur w (F+2) o).isSome = true := dur_step w (F+1) o hLS
  obtain ⟨v, hv, hmem⟩ := ref_step w F (w.op o).link (fun r hr => (hrefs r hr).fin)
  have hS : (evStart w (F+3) o).isSome = true := by
    apply start_step w (F+2) o hD ((ev_mono_le w (Nat.le_succ (F+1))).2.2.2.2.2 _ _ hv)
    intro r hr
    have := (hrefs r (hmem r hr)).mono (show F ≤ F + 2 by omega)
    exact ⟨this.start, this.fin⟩
  have hLS3 := mLS (show F + 1 ≤ F + 3 by omega) hLS
  have hD3 := mD (Nat.le_succ (F+2)) hD
  exact ⟨mLS (Nat.le_succ (F+3)) hLS3, interval_step w (F+3) o hS hLS3, mD (Nat.le_succ (F+3)) hD3,
    mS (Nat.le_succ (F+3)) hS, end_step w (F+3) o hS hD3⟩

theorem allDef_of_rank {w : World} {rk : Nat → Nat} (h : Ranked w rk) :
    ∀ k o, rk o < k → AllDef w (4 * k) o := by
  intro k
  induction k with
  | zero => intro o ho; omega
  | succ k ih =>
    intro o ho
    have := allDef_step w (4 * k) o
      (fun r hr => ih r (by have := h.ref o r hr; omega))
      (fun hc e he => ih e.node (by have := h.node o hc e he; omega))
    exact this.mono (by omega)

theorem allDef_of_ranked {w : World} {rk : Nat → Nat} (h : Ranked w rk) {B : Nat} (hB : ∀ o, rk o ≤ B) :
    ∀ o f, 4 * B + 4 ≤ f → AllDef w f o := by
  intro o f hf
  have := allDef_of_rank h (B + 1) o (by have := hB o; omega)
  exact this.mono (by omega)

theorem countP_lt_of_witness {α} (p q : α → Bool) (l : List α) (hpq : ∀ x, p x = true → q x = true)
    {y : α} (hy : y ∈ l) (hqy : q y = true) (hpy : p y = false) : l.countP p < l.countP q := by
  induction l with
  | nil => cases hy
  | cons a as ih =>
    have hle : as.countP p ≤ as.countP q := List.countP_mono_left (fun x _ => hpq x)
    rw [List.countP_cons, List.countP_cons]
    rcases List.mem_cons.mp hy with rfl | hy'
    · rw [if_pos hqy, if_neg (by rw [hpy]; simp)]; omega
    · have := ih hy'
      by_cases hpa : p a = true
      · rw [if_pos hpa, if_pos (hpq a hpa)]; omega
      · rw [if_neg hpa]
        by_cases hqa : q a = true
        · rw [if_pos hqa]; omega
        · rw [if_neg hqa]; omega

/-- the compressed rank: how many existing objects have a smaller rank. -/
def crank (w : World) (rk : Nat → Nat) (o : Nat) : Nat :=
  (List.range w.ops.size).countP (fun x => decide (rk x < rk o))

theorem crank_le (w : World) (rk : Nat → Nat) (o : Nat) : crank w rk o ≤ w.ops.size := by
  unfold crank
  have := List.countP_le_length (p := fun x => decide (rk x < rk o)) (l := List.range w.ops.size)
  simpa using this

theorem crank_lt {w : World} {rk : Nat → Nat} {x y : Nat} (hy : y < w.ops.size) (h : rk y < rk x) :
    crank w rk y < crank w rk x := by
  unfold crank
  apply countP_lt_of_witness _ _ _ _ (List.mem_range.mpr hy)
  · simpa using h
  · simp
  · intro z hz
    simp only [decide_eq_true_eq] at hz ⊢
    omega

theorem Ranked.compress {w : World} {rk : Nat → Nat} (h : Ranked w rk) (hc : Closed w) :
    Ranked w (crank w rk) ∧ ∀ o, crank w rk o ≤ w.ops.size :=
  ⟨⟨fun o r hr => crank_lt (hc.ref o r hr) (h.ref o r hr),
    fun o hco e he => crank_lt (hc.node o e he) (h.node o hco e he)⟩, crank_le w rk⟩

theorem allDef_fuel {w : World} (h : Acyclic w) (hc : Closed w) : ∀ o f, w.fuel ≤ f → AllDef w f o := by
  obtain ⟨rk, hrk⟩ := h
  obtain ⟨h1, h2⟩ := hrk.compress hc
  intro o f hf
  exact allDef_of_ranked h1 h2 o f (by unfold World.fuel at hf; omega)

/-- on a closed acyclic heap the driver's fuel defines start, duration and end (= start + duration) of every object, and
    no fuel gives another start. -/
theorem times_defined {w : World} (ha : Acyclic w) (hc : Closed w) (o : Nat) :
    ∃ s d, evStart w w.fuel o = some s ∧ evDur w w.fuel o = some d ∧ evEnd w w.fuel o = some (s + d) ∧
      ∀ s', Start w o s' → s' = s := by
  have h := allDef_fuel ha hc o w.fuel (Nat.le_refl _)
  obtain ⟨s, hs⟩ := Option.isSome_iff_exists.mp h.start
  obtain ⟨d, hd⟩ := Option.isSome_iff_exists.mp h.dur
  obtain ⟨e, he⟩ := Option.isSome_iff_exists.mp h.fin
  obtain ⟨s', d', hs', hd', rfl⟩ := End.decompose ⟨_, he⟩
  rw [Start.unique hs' ⟨_, hs⟩, DurV.unique hd' ⟨_, hd⟩] at he
  exact ⟨s, d, hs, hd, he, fun s'' h'' => Start.unique h'' ⟨_, hs⟩⟩

/-! ### without the certificate definedness fails: two objects whose links refer to each other -/

def cycWorld : World :=
  { ops := #[{ cls := .rx180, qs := [0], dur := .glob .mw, link := 1 },
             { cls := .wait, qs := [0], dur := .fixed 16, link := 2 }],
    links := #[{}, { refs := [1] }, { refs := [0] }] }

theorem start_undefined_step (w : World) (f o r : Nat) (hl : (w.lnk (w.op o).link).multi = false)
    (hr : (w.lnk (w.op o).link).refs.head? = some r) (ih : evStart w f r = none) : evStart w (f+1) o = none := by
  rw [evStart_succ]
  cases hd : evDur w f o with
  | none => rfl
  | some d =>
    cases f with
    | zero => rw [evDur.eq_1] at hd; cases hd
    | succ f =>
      rw [evRef.eq_2]
      simp only [hl, hr, Bool.not_false, if_true, Option.bind_some, ih, Option.bind_none]

theorem cyc_undefined : ∀ f, evStart cycWorld f 0 = none ∧ evStart cycWorld f 1 = none := by
  intro f
  induction f with
  | zero => exact ⟨by rw [evStart.eq_1], by rw [evStart.eq_1]⟩
  | succ f ih =>
    exact ⟨start_undefined_step _ f 0 1 (by decide) (by decide) ih.2,
      start_undefined_step _ f 1 0 (by decide) (by decide) ih.1⟩

theorem cyc_not_acyclic : ¬ Acyclic cycWorld := by
  rintro ⟨rk, h⟩
  have h1 := h.ref 0 1 (by decide)
  have h2 := h.ref 1 0 (by decide)
  omega

/-! ### checking the certificate of a literal heap by evaluation -/

/-- every id reads as one of `0 … ops.size`: the last one stands for all ids beyond the heap (the default object), which
    is why the Boolean checks below run over `range (ops.size + 1)`. -/
theorem op_min (w : World) (o : Nat) : w.op (min o w.ops.size) = w.op o := by
  by_cases h : o ≤ w.ops.size
  · rw [Nat.min_eq_left h]
  · rw [Nat.min_eq_right (by omega), World.op_of_ge w (Nat.le_refl _), World.op_of_ge w (by omega)]

/-- Boolean check of `Ranked w (fun o => rk.getD o 0)` (ids beyond the heap have rank `0`). -/
def rankedCheck (w : World) (rk : List Nat) : Bool :=
  (List.range (w.ops.size + 1)).all fun o =>
    ((w.lnk (w.op o).link).refs.all fun r => decide (rk.getD r 0 < rk.getD o 0)) &&
    (!(w.op o).isComp || (w.op o).graph.all fun e => decide (rk.getD e.node 0 < rk.getD o 0))

theorem ranked_of_check (w : World) (rk : List Nat) (hlen : rk.length ≤ w.ops.size)
    (h : rankedCheck w rk = true) : Ranked w (fun o => rk.getD o 0) := by
  have hrk : ∀ o, rk.getD (min o w.ops.size) 0 = rk.getD o 0 := by
    intro o
    by_cases ho : o ≤ w.ops.size
    · rw [Nat.min_eq_left ho]
    · rw [Nat.min_eq_right (by omega), getD_of_ge rk 0 hlen, getD_of_ge rk 0 (show rk.length ≤ o by omega)]
  have key : ∀ o, (∀ r ∈ (w.lnk (w.op o).link).refs, rk.getD r 0 < rk.getD o 0) ∧
      ((w.op o).isComp = false ∨ ∀ e ∈ (w.op o).graph, rk.getD e.node 0 < rk.getD o 0) := by
    intro o
    have := List.all_eq_true.mp h (min o w.ops.size) (List.mem_range.mpr (by omega))
    rw [op_min, hrk] at this
    simpa only [Bool.and_eq_true, List.all_eq_true, decide_eq_true_eq, Bool.or_eq_true, Bool.not_eq_true'] using this
  refine ⟨fun o r hr => (key o).1 r hr, fun o hc e he => ?_⟩
  rcases (key o).2 with h0 | h0
  · rw [hc] at h0; cases h0
  · exact h0 e he

def closedCheck (w : World) : Bool :=
  (List.range (w.ops.size + 1)).all fun o =>
    ((w.lnk (w.op o).link).refs.all fun r => decide (r < w.ops.size)) &&
    ((w.op o).graph.all fun e => decide (e.node < w.ops.size)) &&
    decide ((w.op o).link < w.links.size)

theorem closed_of_check (w : World) (h : closedCheck w = true) : Closed w := by
  have key : ∀ o, ((∀ r ∈ (w.lnk (w.op o).link).refs, r < w.ops.size) ∧
      ∀ e ∈ (w.op o).graph, e.node < w.ops.size) ∧ (w.op o).link < w.links.size := by
    intro o
    have := List.all_eq_true.mp h (min o w.ops.size) (List.mem_range.mpr (by omega))
    rw [op_min] at this
    simpa only [Bool.and_eq_true, List.all_eq_true, decide_eq_true_eq] using this
  exact ⟨fun o => (key o).1.1, fun o => (key o).1.2, fun o => (key o).2⟩

end Qco.Defined
