import QcoVerif.Model.Noise
/-
  Helper lemmas for C14, one level below what `Properties/C14.lean` states about the functions of
  `Model/Noise.lean`.  Core Lean only, like the model.
-/
namespace Qco.Noise

theorem splitBlocks_ne_nil : ∀ l : List Instr, splitBlocks l ≠ []
  | [] => by simp [splitBlocks]
  | i :: rest => by
    unfold splitBlocks
    split
    · simp
    · split <;> simp

/-- a TICK closes a block of its own, any other instruction joins the first block of the rest (there always is
    one). -/
theorem splitBlocks_cons (i : Instr) (rest : List Instr) : ∃ b bs, splitBlocks rest = b :: bs ∧
    splitBlocks (i :: rest) = if isTick i then [i] :: b :: bs else (i :: b) :: bs := by
  match h : splitBlocks rest with
  | [] => exact absurd h (splitBlocks_ne_nil rest)
  | b :: bs => exact ⟨b, bs, rfl, by simp only [splitBlocks, h]⟩

theorem foldl_max_spec (l : List Int) (x : Int) :
    x ≤ l.foldl max x ∧ (∀ y ∈ l, y ≤ l.foldl max x) ∧ (l.foldl max x = x ∨ l.foldl max x ∈ l) := by
  induction l generalizing x with
  | nil => simp
  | cons z zs ih =>
    obtain ⟨h1, h2, h3⟩ := ih (max x z)
    simp only [List.foldl_cons, List.mem_cons, forall_eq_or_imp]
    refine ⟨by omega, ⟨by omega, h2⟩, ?_⟩
    rcases h3 with h3 | h3
    · rw [h3]; rcases Int.le_total x z with h | h
      · right; left; omega
      · left; omega
    · right; right; exact h3

theorem mem_insertNat (x y : Nat) (l : List Nat) : y ∈ insertNat x l ↔ y = x ∨ y ∈ l := by
  induction l with
  | nil => simp [insertNat]
  | cons z zs ih =>
    unfold insertNat
    split
    · simp
    · split
      · rename_i h; subst h; simp
      · rw [List.mem_cons, ih, List.mem_cons, or_left_comm]

theorem insertNat_sorted (x : Nat) (l : List Nat) (h : l.Pairwise (· < ·)) : (insertNat x l).Pairwise (· < ·) := by
  induction l with
  | nil => simp [insertNat]
  | cons z zs ih =>
    rw [List.pairwise_cons] at h
    unfold insertNat
    split
    · rename_i hxz
      refine List.pairwise_cons.2 ⟨?_, List.pairwise_cons.2 h⟩
      intro a ha
      rcases List.mem_cons.1 ha with rfl | ha
      · exact hxz
      · exact Nat.lt_trans hxz (h.1 a ha)
    · split
      · exact List.pairwise_cons.2 h
      · rename_i h1 h2
        refine List.pairwise_cons.2 ⟨?_, ih h.2⟩
        intro a ha
        rcases (mem_insertNat x a zs).1 ha with rfl | ha
        · omega
        · exact h.1 a ha

theorem arity_M : arity "M" = 1 := by decide +kernel
theorem arity_noise : arity "PAULI_CHANNEL_1" = 1 := by decide +kernel
theorem isNoise_noise : isNoise "PAULI_CHANNEL_1" = true := by decide +kernel
theorem isNoise_M : isNoise "M" = false := by decide +kernel

theorem map_q_filterMap_q? : ∀ ts : List Target, ts.all Target.isQ = true → (ts.filterMap Target.q?).map Target.q = ts
  | [], _ => rfl
  | .q n :: ts, h => by
    simp only [List.all_cons, Bool.and_eq_true] at h
    simp [Target.q?, map_q_filterMap_q? ts h.2]
  | .mrec _ :: _, h => by simp [Target.isQ] at h
  | .other _ :: _, h => by simp [Target.isQ] at h

end Qco.Noise
