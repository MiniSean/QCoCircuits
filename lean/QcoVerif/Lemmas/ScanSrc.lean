import QcoVerif.Lemmas.PyBridge
import QcoVerif.Model.Builder
/-
  The loop of `AcquisitionRegistry.get_registry_at` (structure/registry_acquisition.py; translated source, Generated/PySrc.lean)
  follows the model's two-counter scan `acqScan.go`; the theorem about the whole function is `C07.registry_scan_matches_source`.
  Core Lean only.
-/
namespace Qco.ScanSrc
open Qco Qco.Py Qco.Gen.PySrc

/-- an acquisition identifier: identity = the measurement it belongs to, field `qubit_index`. -/
def identVal (m : Nat) (q : Int) : Val := .obj "AcquisitionIdentifier" m [("qubit_index", .int q)]

/-- a listed operation: `some (m, q)` = a measurement (an `IAcquisitionOperation`), `none` = any other operation. -/
def opVal : Option (Nat × Int) → Val
  | some (m, q) => .obj "DispersiveMeasure" (1000 + m) [("acquisition_identifier", identVal m q)]
  | none => .obj "Rx180" 999 []

def infoVal (p : Int × Int) : Val :=
  .tuple [.str "AcquisitionIndexInfo", .tuple [.str "qubit_level_index", .int p.1], .tuple [.str "circuit_level_index", .int p.2]]

/-- `isinstance(op, IAcquisitionOperation)` by class; a method call is answered from the receiver's field of that name with `()`
    (a pseudo-field: what a method of ANOTHER object returns is given with that object — here the listing
    `reference_circuit.decomposed_operations()`, an input of the theorem); the constructor of the result is uninterpreted. -/
def scanEnv : Env :=
  { func := fun f args => match f, args with
      | "isinstance", [.obj c _ _, .str "IAcquisitionOperation"] => some (.bool (c == "DispersiveMeasure"))
      | "AcquisitionIndexInfo", args => some (.tuple (.str "AcquisitionIndexInfo" :: args))
      | _, _ => Option.none
    method := fun recv m _ => match recv with | .obj _ _ fs => lookupField fs (m ++ "()") | _ => Option.none }

def regSelf (ops : List (Option (Nat × Int))) : Val :=
  .obj "AcquisitionRegistry" 0
    [("reference_circuit", .obj "Circuit" 1 [("decomposed_operations()", .list (ops.map opVal))]),
     ("_default", infoVal (-1, -1))]

def loopBody : List Stmt :=
  [.ifs (.call "isinstance" [.name "operation", .str "IAcquisitionOperation"])
    [.assign "qubit_id_match" (.cmp .eq (.attr (.attr (.name "operation") "acquisition_identifier") "qubit_index") (.attr (.name "key") "qubit_index")),
     .assign "key_match" (.cmp .eq (.attr (.name "operation") "acquisition_identifier") (.name "key")),
     .ifs (.name "key_match") [.ret (.call "AcquisitionIndexInfo" [.tuple [.str "qubit_level_index", .name "qubit_level_acquisition_index"], .tuple [.str "circuit_level_index", .name "circuit_level_acquisition_index"]])] [],
     .ifs (.name "qubit_id_match") [.aug "qubit_level_acquisition_index" .add (.int 1)] [],
     .aug "circuit_level_acquisition_index" .add (.int 1)] []]

structure ScanVars (vs : Vars) (m : Nat) (q ql cl : Int) : Prop where
  key : vs.get "key" = identVal m q
  ql : vs.get "qubit_level_acquisition_index" = .int ql
  cl : vs.get "circuit_level_acquisition_index" = .int cl

@[py_eval] theorem builtin_AcquisitionIndexInfo (args : List Val) : builtin "AcquisitionIndexInfo" args = none :=
  builtin_none _ _ (by simp [builtinNames])

theorem scan_other (vs : Vars) :
    execBlock scanEnv (vs.set "operation" (opVal none)) loopBody = .cont (vs.set "operation" (opVal none)) := by
  py_simp [loopBody, opVal, scanEnv]

/-- `key_match` is identity of the identifier objects. -/
theorem scan_hit (vs : Vars) (m : Nat) (q ql cl : Int) (hv : ScanVars vs m q ql cl) (q' : Int) :
    execBlock scanEnv (vs.set "operation" (opVal (some (m, q')))) loopBody = .ret (infoVal (ql, cl)) := by
  py_simp [loopBody, opVal, identVal, infoVal, scanEnv, hv.key, hv.ql, hv.cl]

/-- `qubit_id_match` is equality of the qubit indices. -/
theorem scan_miss (vs : Vars) (m : Nat) (q ql cl : Int) (hv : ScanVars vs m q ql cl) (m' : Nat) (q' : Int) (hm : m' ≠ m) :
    ∃ vs1, execBlock scanEnv (vs.set "operation" (opVal (some (m', q')))) loopBody = .cont vs1 ∧
      ScanVars vs1 m q (if q' == q then ql + 1 else ql) (cl + 1) ∧ vs1.get "self" = vs.get "self" := by
  py_simp [loopBody, opVal, identVal, scanEnv, hv.key, hv.ql, hv.cl, hm]
  split
  · exact ⟨_, rfl, ⟨by simp [Vars.get_set, hv.key], by simp [Vars.get_set], by simp [Vars.get_set]⟩, by simp [Vars.get_set]⟩
  · exact ⟨_, rfl, ⟨by simp [Vars.get_set, hv.key], by simp [Vars.get_set, hv.ql], by simp [Vars.get_set]⟩, by simp [Vars.get_set]⟩

theorem scan_loop (m : Nat) (q : Int) : ∀ (ops : List (Option (Nat × Int))) (vs : Vars) (ql cl : Int),
    ScanVars vs m q ql cl →
    (if (ops.filterMap id).any (fun p => p.1 == m) then
       forLoop (fun vs' v => execBlock scanEnv (vs'.set "operation" v) loopBody) (ops.map opVal) vs =
         .ret (infoVal (acqScan.go m q (ops.filterMap id) ql cl))
     else
       (∃ vs', forLoop (fun vs' v => execBlock scanEnv (vs'.set "operation" v) loopBody) (ops.map opVal) vs = .cont vs' ∧
          vs'.get "self" = vs.get "self") ∧
       acqScan.go m q (ops.filterMap id) ql cl = (-1, -1)) := by
  intro ops
  induction ops with
  | nil => intro vs ql cl _; simp [forLoop, acqScan.go]
  | cons o rest ih =>
    intro vs ql cl hv
    simp only [List.map_cons, forLoop]
    rcases o with _ | ⟨m', q'⟩
    · have hv' : ScanVars (vs.set "operation" (opVal none)) m q ql cl :=
        ⟨by simp [Vars.get_set, hv.key], by simp [Vars.get_set, hv.ql], by simp [Vars.get_set, hv.cl]⟩
      rw [scan_other]
      simpa [Vars.get_set] using ih _ ql cl hv'
    · by_cases hm : m' = m
      · subst hm
        rw [scan_hit vs m' q ql cl hv]
        simp [acqScan.go]
      · obtain ⟨vs1, h1, h2, h3⟩ := scan_miss vs m q ql cl hv m' q' hm
        rw [h1]
        simpa [acqScan.go, hm, h3] using ih vs1 _ _ h2

end Qco.ScanSrc
