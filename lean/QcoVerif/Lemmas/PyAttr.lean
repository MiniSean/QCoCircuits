import Lean.Meta.Tactic.Simp.RegisterCommand

/-- The equations by which `py_simp` (Lemmas/PyBridge.lean) runs the interpreter of Model/PyLang.lean on closed syntax. -/
register_simp_attr py_eval
