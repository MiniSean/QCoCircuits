import QcoVerif.Model.Ident
import QcoVerif.Lemmas.PyBridge
/-
  C19 — source tie of `unique_in_order` (utilities/array_manipulation.py): the loop over a growing `seen` set, as written,
  computes the model's `uniqueLoop` (hence `uniqueInOrder`, by `C19.uniqueLoop_eq_uniqueInOrder`).  A set the function only adds to
  and asks membership of is translated as the list of the elements added (tools/pylean.py).  Core Lean only.
-/
namespace Qco.UniqSrc
open Qco Qco.Py Qco.Gen.PySrc

def body : List Stmt :=
  [.ifs (.cmp .notIn (.name "item") (.name "seen"))
     [.aug "seen" .add (.list [.name "item"]), .aug "result" .add (.list [.name "item"])] []]

/-- the loop: `seen` and `result` both hold `acc`; after the loop they hold `uniqueLoopAux (· == ·) acc l`. -/
theorem uniq_loop : ∀ (l acc : List Int) (vs : Vars),
    vs.get "seen" = ints acc → vs.get "result" = ints acc →
    ∃ vs', forLoop (fun vs' v => execBlock {} (vs'.set "item" v) body) (l.map Val.int) vs = .cont vs' ∧
      vs'.get "result" = ints (uniqueLoopAux (fun s x => s == x) acc l) := by
  intro l
  induction l with
  | nil => intro acc vs _ hr; exact ⟨vs, rfl, hr⟩
  | cons x xs ih =>
    intro acc vs hs hr
    -- one round: both lists grow by the item iff it is not in `seen`
    have step : (execBlock {} (vs.set "item" (Val.int x)) body).contWith (fun vs1 =>
        vs1.get "seen" = ints (if x ∈ acc then acc else acc ++ [x]) ∧
        vs1.get "result" = ints (if x ∈ acc then acc else acc ++ [x])) := by
      py_simp [body, hs, hr]
    obtain ⟨vs1, h1, h2, h3⟩ := Outcome.contWith_elim step
    obtain ⟨vs', g1, g2⟩ := ih _ vs1 h2 h3
    refine ⟨vs', by simp only [List.map_cons, forLoop, h1, g1], ?_⟩
    rw [g2, uniqueLoopAux]
    by_cases hx : x ∈ acc <;> simp [hx]

/-- **`unique_in_order` as written** returns, for every list of integers, the model's `uniqueLoop` with `==` as the set's test. -/
theorem unique_in_order_matches_source (l : List Int) :
    callFn {} Util_unique_in_order [ints l] = ints (uniqueLoop (fun s x => s == x) l) := by
  obtain ⟨vs', h1, h2⟩ := uniq_loop l []
    (((Vars.set [] "iterable" (.list (l.map .int))).set "seen" (.list [])).set "result" (.list []))
    (by simp [Vars.get_set, ints]) (by simp [Vars.get_set, ints])
  have hiter : (eval {} (((Vars.set [] "iterable" (.list (l.map .int))).set "seen" (.list [])).set "result" (.list []))
      (.name "iterable")).elems? = some (l.map Val.int) := by
    py_simp []
  py_simp [Util_unique_in_order]
  rw [execBlock_for _ _ _ _ _ _ _ hiter]
  unfold body at h1
  rw [h1]
  py_simp [h2, uniqueLoop]

end Qco.UniqSrc
