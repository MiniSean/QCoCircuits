import QcoVerif.Lemmas.C10Param
/-
  C10, parametric layer lemmas: NESTED blocks.

  A library circuit is a sub-circuit whose nodes are laid out in layers (Lemmas/C10Param.lean) and some of whose
  nodes are again sub-circuits of that kind.  `Nested w cert f X`: below `X`, to depth `f`, every sub-circuit `Y` is
  a block (`BlockOk`) of one or several sequences of layers `cert Y` (`SeqOk`).  Then no two conflicting leaf
  operations below `X` overlap (`nested_no_double_booking`): for every number of qubits, paths, layers, nesting
  levels and all non-negative durations.  On the way: such a block has lead 0 and its interval covers everything
  below it (`nested_lead_covers`), and whatever it is FOLLOWED_BY-linked to precedes everything below it
  (`nested_reach`).

  Definedness: the statements are about defined answers of the evaluator, as everywhere in C10; the end of a
  sub-circuit is needed only where it is implied by the start of a later operation being defined (`EndsBy`).
-/
namespace Qco.C10Param

open Qco Qco.C10

def EndsBy (w : World) (A Q : Nat) : Prop :=
  ∀ eq, End w Q eq → (∀ ea, End w A ea → ea ≤ eq) ∧ ((w.op A).isComp = true → ∃ ea, End w A ea)

def SepAfter (w : World) (A B : Nat) : Prop := ∃ Q, FbStep w Q B ∧ EndsBy w A Q

theorem endsBy_of_reach {w : World} (hd : LeafDurNonneg w) {A Q : Nat} (h : Q = A ∨ Reach w A Q) : EndsBy w A Q := by
  intro eq heq
  rcases h with rfl | h
  · exact ⟨fun ea hea => by rw [hea.unique heq]; exact Int.le_refl _, fun _ => ⟨eq, heq⟩⟩
  · obtain ⟨sq, _, hsq, _, _⟩ := heq.decompose
    have h1 := start_le_end hd hsq heq
    refine ⟨fun ea hea => ?_, fun _ => h.end_defined hsq⟩
    have := h.before hd ea sq hea hsq
    omega

theorem endsBy_of_core {w : World} (hd : LeafDurNonneg w) {L : LayerData} (hL : LayerCore w L) {a0 : Nat}
    (hside : ∀ c ∈ L.chains, c ≠ L.main → ∀ x ∈ c, (w.op x).isComp = false)
    {c : List Nat} (hc : c ∈ L.chains) {A : Nat} (hA : A ∈ c) {Q : Nat}
    (hQ : Q = lastOf a0 L.main ∨ Reach w (lastOf a0 L.main) Q) : EndsBy w A Q := by
  intro eq heq
  have hM : ∃ em, End w (lastOf a0 L.main) em ∧ em ≤ eq := by
    rcases hQ with rfl | hQ
    · exact ⟨eq, heq, Int.le_refl _⟩
    · obtain ⟨sq, _, hsq, _, _⟩ := heq.decompose
      obtain ⟨em, hem⟩ := hQ.end_defined hsq
      have := hQ.before hd em sq hem hsq
      have := start_le_end hd hsq heq
      exact ⟨em, hem, by omega⟩
  obtain ⟨em, hem, hle⟩ := hM
  refine ⟨fun ea hea => ?_, fun hcomp => ?_⟩
  · have := core_before_next hL hc hA hea hem
    omega
  · -- a sub-circuit sits on the dominating path, whose last operation it is or reaches
    have hcm : c = L.main := by
      by_cases hcm : c = L.main
      · exact hcm
      · have := hside c hc hcm A hA
        rw [this] at hcomp; cases hcomp
    subst hcm
    cases hmain : L.main with
    | nil => exact absurd hmain hL.main_ne
    | cons x xs =>
      rw [hmain] at hA hem
      rcases cons_path_reach_last (hL.internal _ hc x xs hmain) hA with h1 | h1
      · exact ⟨em, h1 ▸ hem⟩
      · obtain ⟨sm, _, hsm, _, _⟩ := hem.decompose
        exact h1.end_defined hsm

theorem core_path_sep {w : World} (hd : LeafDurNonneg w) {L : LayerData} (hL : LayerCore w L)
    {c : List Nat} (hc : c ∈ L.chains) {u v : Nat} (hu : u ∈ c) (hv : v ∈ c) (huv : u ≠ v) :
    SepAfter w u v ∨ SepAfter w v u := by
  have hsep : ∀ {u v : Nat}, (∃ l2 l3, FbPath w u (l2 ++ v :: l3)) → SepAfter w u v := by
    rintro u v ⟨l2, l3, h⟩
    obtain ⟨Q, hQ, hr⟩ := h.pred_reach (y := v) (by simp)
    exact ⟨Q, hQ, endsBy_of_reach hd hr⟩
  exact (hL.two hc hu hv huv).imp hsep hsep

def SideLeaves (w : World) (Ls : List LayerData) : Prop :=
  ∀ L ∈ Ls, ∀ c ∈ L.chains, c ≠ L.main → ∀ x ∈ c, (w.op x).isComp = false

theorem SideLeaves.tail {w : World} {L : LayerData} {Ls : List LayerData} (h : SideLeaves w (L :: Ls)) :
    SideLeaves w Ls := fun L' hL' => h L' (List.mem_cons_of_mem _ hL')

theorem core_sep_later {w : World} (hd : LeafDurNonneg w) {L : LayerData} {rest : List LayerData} {a0 : Nat}
    (hL : LayerCore w L) (hside : ∀ c ∈ L.chains, c ≠ L.main → ∀ x ∈ c, (w.op x).isComp = false)
    (hrest : Layers w (lastOf a0 L.main) rest) {c : List Nat} (hc : c ∈ L.chains) {A : Nat} (hA : A ∈ c)
    {B : Nat} (hB : B ∈ layerOps rest) : SepAfter w A B := by
  obtain ⟨Q, hQ, hr⟩ := layers_pred rest _ hrest B hB
  exact ⟨Q, hQ, endsBy_of_core hd hL hside hc hA hr⟩

theorem layers_sep {w : World} (hd : LeafDurNonneg w) : ∀ (Ls : List LayerData) (b : Nat), Layers w b Ls →
    SideLeaves w Ls → ∀ A ∈ layerOps Ls, ∀ B ∈ layerOps Ls, A ≠ B →
      SepAfter w A B ∨ SepAfter w B A ∨ DiffChains Ls A B := by
  intro Ls
  induction Ls with
  | nil => intro b _ _ A hA; cases hA
  | cons L rest ih =>
    intro b h hside
    exact layerOps_cons_cases
      (fun _ hc _ hu _ hv huv => core_path_sep hd (h.1.core_of_mem hc) hc hu hv huv)
      (fun _ hc _ hu _ hz => core_sep_later hd (h.1.core_of_mem hc) (hside L List.mem_cons_self) h.2 hc hu hz)
      (ih _ h.2 hside.tail)

theorem block_sep {w : World} (hd : LeafDurNonneg w) {L : LayerData} {rest : List LayerData} {a0 : Nat}
    (hL : LayerCore w L) (hrest : Layers w (lastOf a0 L.main) rest) (hside : SideLeaves w (L :: rest)) :
    ∀ A ∈ layerOps (L :: rest), ∀ B ∈ layerOps (L :: rest), A ≠ B →
      SepAfter w A B ∨ SepAfter w B A ∨ DiffChains (L :: rest) A B :=
  layerOps_cons_cases (fun _ hc _ hu _ hv huv => core_path_sep hd hL hc hu hv huv)
    (fun _ hc _ hu _ hz => core_sep_later hd hL (hside L List.mem_cons_self) hrest hc hu hz)
    (layers_sep hd rest _ hrest hside.tail)

def leavesBelow (w : World) (f : Nat) (x : Nat) : List Nat :=
  if (w.op x).isComp then contents w f x else [x]

theorem contents_succ (w : World) (f c : Nat) :
    contents w (f + 1) c = (w.op c).graph.flatMap (fun e => leavesBelow w f e.node) := rfl

theorem mem_leavesBelow_leaf {w : World} {f X a : Nat} (h : (w.op X).isComp = false) :
    a ∈ leavesBelow w f X ↔ a = X := by
  simp [leavesBelow, h]

theorem mem_leavesBelow_comp {w : World} {f X a : Nat} (h : (w.op X).isComp = true) :
    a ∈ leavesBelow w (f + 1) X ↔ ∃ e ∈ (w.op X).graph, a ∈ leavesBelow w f e.node := by
  show a ∈ (if (w.op X).isComp then contents w (f + 1) X else [X]) ↔ _
  rw [if_pos h, contents_succ, List.mem_flatMap]

def Conflict (w : World) (a b : Nat) : Prop :=
  sharesChannel (w.op a) (w.op b) = true ∧
  ((w.op a).cls = .barrier ∨ (w.op b).cls = .barrier ∨
   (w.leafDur (w.op a).dur ≠ 0 ∧ w.leafDur (w.op b).dur ≠ 0))

/-- One sequence of layers `L :: rest` of sub-circuit `X`: the first operations of the paths of `L` carry `X`'s own
    link object, the other layers hang below; sub-circuits occur on dominating paths only; operations (at any depth
    `≤ f`) on two different paths of one layer never conflict. -/
structure SeqOk (w : World) (X : Nat) (L : LayerData) (rest : List LayerData) (f : Nat) : Prop where
  internal : ∀ c ∈ L.chains, ∀ x xs, c = x :: xs → FbPath w x xs
  headLink : ∀ c ∈ L.chains, ∀ x xs, c = x :: xs → (w.op x).link = (w.op X).link
  main_ne : L.main ≠ []
  main_mem : L.main ∈ L.chains
  dom : Dominated w L.chains L.main
  layers : Layers w (lastOf 0 L.main) rest
  side : SideLeaves w (L :: rest)
  sep : ∀ L' ∈ L :: rest, ∀ c ∈ L'.chains, ∀ c' ∈ L'.chains, c ≠ c' → ∀ x ∈ c, ∀ y ∈ c',
    ∀ a ∈ leavesBelow w f x, ∀ b ∈ leavesBelow w f y, ¬ Conflict w a b

/-- Sub-circuit `X` is a block of layers: one or several sequences of layers (several: independent branches of the
    relation tree, which typically share their first layers) that together contain every node of `X`; one of them
    begins with a depth-1 node; two nodes that do not lie on a common sequence never conflict. -/
structure BlockOk (w : World) (X : Nat) (seqs : List (List LayerData)) (f : Nat) : Prop where
  comp : (w.op X).isComp = true
  notJe : (w.lnk (w.op X).link).rel ≠ .je
  seq : ∀ s ∈ seqs, ∃ L rest, s = L :: rest ∧ SeqOk w X L rest f
  cover : ∀ e ∈ (w.op X).graph, ∃ s ∈ seqs, e.node ∈ layerOps s
  mainHead : ∃ s ∈ seqs, ∃ L rest x xs, s = L :: rest ∧ L.main = x :: xs ∧
    ∃ e ∈ (w.op X).graph, e.parent = none ∧ e.node = x
  cross : ∀ s ∈ seqs, ∀ s' ∈ seqs, ∀ A ∈ layerOps s, ∀ B ∈ layerOps s', A ∉ layerOps s' → B ∉ layerOps s →
    ∀ a ∈ leavesBelow w f A, ∀ b ∈ leavesBelow w f B, ¬ Conflict w a b

theorem SeqOk.head {w : World} {X : Nat} {L : LayerData} {rest : List LayerData} {f : Nat}
    (h : SeqOk w X L rest f) (hje : (w.lnk (w.op X).link).rel ≠ .je) : HeadLayerOk w L where
  internal := h.internal
  link := by
    intro c hc c' hc' x xs x' xs' hcx hcx'
    rw [h.headLink c hc x xs hcx, h.headLink c' hc' x' xs' hcx']
  notJe := by
    intro c hc x xs hcx
    rw [h.headLink c hc x xs hcx]; exact hje
  main_ne := h.main_ne
  main_mem := h.main_mem
  dom := h.dom

theorem fbStep_of_link {w : World} {P x y : Nat} (hl : (w.op x).link = (w.op y).link) (h : FbStep w P y) :
    FbStep w P x := by
  unfold FbStep at *
  rw [hl]; exact h

theorem SeqOk.pred {w : World} {X : Nat} {L : LayerData} {rest : List LayerData} {f : Nat}
    (h : SeqOk w X L rest f) {n : Nat} (hn : n ∈ layerOps (L :: rest)) :
    (w.op n).link = (w.op X).link ∨
    ∃ Q, FbStep w Q n ∧ ∃ x, (w.op x).link = (w.op X).link ∧ (Q = x ∨ Reach w x Q) := by
  simp only [layerOps, List.mem_append, List.mem_flatten] at hn
  rcases hn with ⟨c, hc, hnc⟩ | hn
  · cases c with
    | nil => cases hnc
    | cons x xs =>
      cases hnc with
      | head => exact Or.inl (h.headLink _ hc n xs rfl)
      | tail _ hn' =>
        obtain ⟨Q, hQ, hr⟩ := (h.internal _ hc x xs rfl).pred_reach hn'
        exact Or.inr ⟨Q, hQ, x, h.headLink _ hc x xs rfl, hr⟩
  · obtain ⟨Q, hQ, hr⟩ := layers_pred rest _ h.layers n hn
    cases hmain : L.main with
    | nil => exact absurd hmain h.main_ne
    | cons x xs =>
      rw [hmain] at hr
      exact Or.inr ⟨Q, hQ, x, h.headLink _ h.main_mem x xs hmain,
        Reach.or_trans (cons_path_reach_last (h.internal _ h.main_mem x xs hmain) List.mem_cons_self) hr⟩

theorem SeqOk.start_ge {w : World} (hd : LeafDurNonneg w) {X : Nat} {L : LayerData} {rest : List LayerData}
    {f : Nat} (h : SeqOk w X L rest f) (hje : (w.lnk (w.op X).link).rel ≠ .je) {h0 : Nat}
    (hl0 : (w.op h0).link = (w.op X).link) {t0 : Int} (ht0 : Start w h0 t0)
    {n : Nat} (hn : n ∈ layerOps (L :: rest)) {sn : Int} (hsn : Start w n sn) : t0 ≤ sn := by
  have hch : ∀ c ∈ L.chains, ChainAt w t0 c := by
    intro c hc
    cases c with
    | nil => trivial
    | cons x xs =>
      refine ⟨fun s hs => ?_, h.internal _ hc x xs rfl⟩
      have hlx : (w.op x).link = (w.op h0).link := by rw [h.headLink _ hc x xs rfl, hl0]
      have hje' : (w.lnk (w.op h0).link).rel ≠ .je := by rw [hl0]; exact hje
      exact same_link_same_start hlx hje' hs ht0
  have hfirst : ∀ c ∈ L.chains, ∀ y ∈ c, ∀ sy, Start w y sy → t0 ≤ sy := by
    intro c hc y hy sy hsy
    obtain ⟨pre, suf, rfl⟩ := List.append_of_mem hy
    obtain ⟨D, hD, rfl⟩ := chainAt_start (hch _ hc) hsy
    have := hD.nonneg hd
    omega
  simp only [layerOps, List.mem_append, List.mem_flatten] at hn
  rcases hn with ⟨c, hc, hnc⟩ | hn
  · exact hfirst c hc n hnc sn hsn
  · have hr := layers_reach rest _ h.layers n hn
    obtain ⟨em, hem⟩ := hr.end_defined hsn
    have h1 := hr.before hd em sn hem hsn
    obtain ⟨sm, _, hsm, _, _⟩ := hem.decompose
    have h2 := start_le_end hd hsm hem
    have h3 := hfirst _ h.main_mem _ (lastOf_mem h.main_ne) sm hsm
    omega

theorem interval_of_lead_zero {w : World} {n : Nat} (hz : ∀ l d, LeadSpanV w n (l, d) → l = 0) {iv : Int × Int}
    (hiv : IntervalV w n iv) : Start w n iv.1 ∧ End w n iv.2 := by
  obtain ⟨s, l, d, hs, hls, rfl⟩ := hiv.decompose
  have hl := hz l d hls
  subst hl
  refine ⟨by simpa using hs, ?_⟩
  have := End.of_start_dur hs (DurV.of_leadSpan hls)
  simpa using this

theorem BlockOk.start_ge {w : World} (hd : LeafDurNonneg w) {X : Nat} {seqs : List (List LayerData)} {f : Nat}
    (h : BlockOk w X seqs f) {h0 : Nat} (hl0 : (w.op h0).link = (w.op X).link) {t0 : Int} (ht0 : Start w h0 t0)
    {e : Entry} (he : e ∈ (w.op X).graph) {sn : Int} (hsn : Start w e.node sn) : t0 ≤ sn := by
  obtain ⟨s, hs, hn⟩ := h.cover e he
  obtain ⟨L, rest, rfl, hseq⟩ := h.seq s hs
  exact hseq.start_ge hd h.notJe hl0 ht0 hn hsn

/-- **A block of layers has lead 0**, and (with `t0` the start of its first operations and `d` its duration)
    every node has ended at `t0 + d`. -/
theorem BlockOk.lead_zero {w : World} (hd : LeafDurNonneg w) {X : Nat} {seqs : List (List LayerData)} {f : Nat}
    (h : BlockOk w X seqs f)
    (hz : ∀ e ∈ (w.op X).graph, ∀ l d, LeadSpanV w e.node (l, d) → l = 0)
    {l d : Int} (hls : LeadSpanV w X (l, d)) :
    l = 0 ∧ ∃ x0 t0, (w.op x0).link = (w.op X).link ∧ Start w x0 t0 ∧
      ∀ n ∈ listing (w.op X).graph, ∀ en, End w n en → en ≤ t0 + d := by
  obtain ⟨s0, hs0, L0, rest0, x0, xs0, rfl, hmain, e0, he0, hpar, hnode⟩ := h.mainHead
  obtain ⟨L0', rest0', hcons, hseq0⟩ := h.seq _ hs0
  simp only [List.cons.injEq] at hcons
  obtain ⟨rfl, rfl⟩ := hcons
  have hl0 : (w.op x0).link = (w.op X).link := hseq0.headLink _ hseq0.main_mem x0 xs0 hmain
  have hne : (w.op X).graph.isEmpty = false := by
    cases hg : (w.op X).graph with
    | nil => rw [hg] at he0; cases he0
    | cons _ _ => rfl
  obtain ⟨hs, ivs, h1, h2, h3, h4, _, hv⟩ := hls.comp h.comp hne
  have hx0head : x0 ∈ heads (w.op X).graph := mem_heads.mpr ⟨e0, he0, hpar, hnode⟩
  have hx0list : x0 ∈ listing (w.op X).graph := heads_subset_listing hx0head
  obtain ⟨t0, ht0mem, ht0⟩ := h1 x0 hx0head
  have hzn : ∀ n ∈ listing (w.op X).graph, ∀ l d, LeadSpanV w n (l, d) → l = 0 := by
    intro n hn l d hl
    obtain ⟨e, he, rfl⟩ := mem_listing_iff.mp hn
    exact hz e he l d hl
  have hge : ∀ n ∈ listing (w.op X).graph, ∀ sn, Start w n sn → t0 ≤ sn := by
    intro n hn sn hsn
    obtain ⟨e, he, rfl⟩ := mem_listing_iff.mp hn
    exact h.start_ge hd hl0 ht0 he hsn
  have hmin : minOf hs = t0 := by
    apply minOf_eq ht0mem
    intro s hs'
    obtain ⟨n, hn, hsn⟩ := h2 s hs'
    exact hge n (heads_subset_listing hn) s hsn
  have hearly : minOf (ivs.map (·.1)) = t0 := by
    apply minOf_eq
    · obtain ⟨iv, hiv, hivn⟩ := h3 x0 hx0list
      have := (interval_of_lead_zero (hzn x0 hx0list) hivn).1
      exact List.mem_map.mpr ⟨iv, hiv, this.unique ht0⟩
    · intro s hs'
      obtain ⟨iv, hiv, rfl⟩ := List.mem_map.mp hs'
      obtain ⟨n, hn, hivn⟩ := h4 iv hiv
      exact hge n hn _ (interval_of_lead_zero (hzn n hn) hivn).1
  simp only [leadSpan, Prod.mk.injEq] at hv
  obtain ⟨hv1, hv2⟩ := hv
  refine ⟨by omega, x0, t0, hl0, ht0, ?_⟩
  intro n hn en hen
  obtain ⟨iv, hiv, hivn⟩ := h3 n hn
  have h5 := (interval_of_lead_zero (hzn n hn) hivn).2
  have h6 : iv.2 ≤ maxOf (ivs.map (·.2)) := le_maxOf (List.mem_map.mpr ⟨iv, hiv, rfl⟩)
  have := hen.unique h5
  omega

theorem BlockOk.covers {w : World} (hd : LeafDurNonneg w) {X : Nat} {seqs : List (List LayerData)} {f : Nat}
    (h : BlockOk w X seqs f)
    (hz : ∀ e ∈ (w.op X).graph, ∀ l d, LeadSpanV w e.node (l, d) → l = 0)
    {ex : Int} (hex : End w X ex) {n : Nat} (hn : n ∈ listing (w.op X).graph) {en : Int} (hen : End w n en) :
    en ≤ ex := by
  obtain ⟨sX, d, hsX, hdX, rfl⟩ := hex.decompose
  obtain ⟨l, hls⟩ := hdX.decompose
  obtain ⟨_, x0, t0, hlink, ht0, hall⟩ := h.lead_zero hd hz hls
  have := same_link_same_start hlink h.notJe ht0 hsX
  have := hall n hn en hen
  omega

theorem node_end_defined {w : World} {X : Nat} (hc : (w.op X).isComp = true) {ex : Int} (hex : End w X ex)
    {n : Nat} (hn : n ∈ listing (w.op X).graph) : ∃ en, End w n en := by
  obtain ⟨sX, d, _, hdX, _⟩ := hex.decompose
  obtain ⟨l, hls⟩ := hdX.decompose
  have hne : (w.op X).graph.isEmpty = false := by
    obtain ⟨e, he, _⟩ := mem_listing_iff.mp hn
    cases hg : (w.op X).graph with
    | nil => rw [hg] at he; cases he
    | cons _ _ => rfl
  obtain ⟨hs, ivs, _, _, h3, _, _, _⟩ := hls.comp hc hne
  obtain ⟨iv, _, hivn⟩ := h3 n hn
  obtain ⟨s, l', d', hs', hls', _⟩ := hivn.decompose
  exact ⟨s + d', End.of_start_dur hs' (DurV.of_leadSpan hls')⟩

def Nested (w : World) (cert : Nat → List (List LayerData)) : Nat → Nat → Prop
  | 0, _ => False
  | f+1, X => (w.op X).isComp = false ∨
      (BlockOk w X (cert X) f ∧ ∀ e ∈ (w.op X).graph, Nested w cert f e.node)

/-- **Nested blocks have lead 0, and their interval covers every leaf below them** — one induction on the depth:
    that the interval of a block covers its nodes rests on the nodes having lead 0. -/
theorem nested_lead_covers {w : World} (hd : LeafDurNonneg w) {cert : Nat → List (List LayerData)} :
    ∀ (f X : Nat), Nested w cert f X →
      (∀ l d, LeadSpanV w X (l, d) → l = 0) ∧
      (∀ ex, End w X ex → ∀ a ∈ leavesBelow w f X, ∀ ea, End w a ea → ea ≤ ex) := by
  intro f
  induction f with
  | zero => intro X h; cases h
  | succ f ih =>
    intro X h
    rcases h with hleaf | ⟨hb, hnodes⟩
    · refine ⟨fun l d hls => (Prod.mk.inj (hls.leaf hleaf)).1, fun ex hex a ha ea hea => ?_⟩
      rw [(mem_leavesBelow_leaf hleaf).mp ha] at hea
      exact Int.le_of_eq (hea.unique hex)
    · have hz : ∀ e ∈ (w.op X).graph, ∀ l d, LeadSpanV w e.node (l, d) → l = 0 :=
        fun e he => (ih e.node (hnodes e he)).1
      refine ⟨fun l d hls => (hb.lead_zero hd hz hls).1, fun ex hex a ha ea hea => ?_⟩
      obtain ⟨e, he, hae⟩ := (mem_leavesBelow_comp hb.comp).mp ha
      have hn : e.node ∈ listing (w.op X).graph := mem_listing_iff.mpr ⟨e, he, rfl⟩
      obtain ⟨en, hen⟩ := node_end_defined hb.comp hex hn
      have h1 := hb.covers hd hz hex hn hen
      have h2 := (ih e.node (hnodes e he)).2 en hen a hae ea hea
      omega

theorem nested_lead_zero {w : World} (hd : LeafDurNonneg w) {cert : Nat → List (List LayerData)} :
    ∀ (f X : Nat), Nested w cert f X → ∀ l d, LeadSpanV w X (l, d) → l = 0 :=
  fun f X h => (nested_lead_covers hd f X h).1

theorem nested_covers {w : World} (hd : LeafDurNonneg w) {cert : Nat → List (List LayerData)} :
    ∀ (f X : Nat), Nested w cert f X → ∀ ex, End w X ex →
      ∀ a ∈ leavesBelow w f X, ∀ ea, End w a ea → ea ≤ ex :=
  fun f X h => (nested_lead_covers hd f X h).2

/-- **whatever a nested block is FOLLOWED_BY-linked to precedes every leaf below it** (the first operations of a
    block carry the block's link). -/
theorem nested_reach {w : World} {cert : Nat → List (List LayerData)} :
    ∀ (f X : Nat), Nested w cert f X → ∀ P, FbStep w P X → ∀ a ∈ leavesBelow w f X, Reach w P a := by
  intro f
  induction f with
  | zero => intro X h; cases h
  | succ f ih =>
    intro X h P hP a ha
    rcases h with hleaf | ⟨hb, hnodes⟩
    · rw [(mem_leavesBelow_leaf hleaf).mp ha]
      exact .step hP
    · obtain ⟨e, he, hae⟩ := (mem_leavesBelow_comp hb.comp).mp ha
      obtain ⟨s, hs, hn⟩ := hb.cover e he
      obtain ⟨L, rest, rfl, hseq⟩ := hb.seq s hs
      rcases hseq.pred hn with hl | ⟨Q, hQ, x, hx, hr⟩
      · exact ih e.node (hnodes e he) P (fbStep_of_link hl hP) a hae
      · -- `P` is linked to the first operation `x` (it carries the block's link), from which `Q` is reached
        have h1 := ih e.node (hnodes e he) Q hQ a hae
        rcases Reach.or_trans (Or.inr (.step (fbStep_of_link hx hP))) hr with hQP | hPQ
        · exact hQP ▸ h1
        · exact hPQ.trans h1

theorem sepAfter_leaves {w : World} (hd : LeafDurNonneg w) {cert : Nat → List (List LayerData)} {f A B : Nat}
    (hA : Nested w cert f A) (hB : Nested w cert f B) (h : SepAfter w A B)
    {a : Nat} (ha : a ∈ leavesBelow w f A) {b : Nat} (hb : b ∈ leavesBelow w f B)
    {ea sb : Int} (hea : End w a ea) (hsb : Start w b sb) : ea ≤ sb := by
  obtain ⟨Q, hQ, hends⟩ := h
  have hr := nested_reach f B hB Q hQ b hb
  obtain ⟨eq, heq⟩ := hr.end_defined hsb
  have h1 := hr.before hd eq sb heq hsb
  obtain ⟨hall, hex⟩ := hends eq heq
  by_cases hcomp : (w.op A).isComp = true
  · obtain ⟨eA, heA⟩ := hex hcomp
    have h2 := hall eA heA
    have h3 := nested_covers hd f A hA eA heA a ha ea hea
    omega
  · rw [(mem_leavesBelow_leaf (by simpa using hcomp)).mp ha] at hea
    have := hall ea hea
    omega

theorem nested_ordered {w : World} (hd : LeafDurNonneg w) {cert : Nat → List (List LayerData)} :
    ∀ (f X : Nat), Nested w cert f X → ∀ a ∈ leavesBelow w f X, ∀ b ∈ leavesBelow w f X, a ≠ b →
      Conflict w a b → ∀ sa ea sb eb, Start w a sa → End w a ea → Start w b sb → End w b eb →
        ea ≤ sb ∨ eb ≤ sa := by
  intro f
  induction f with
  | zero => intro X h; cases h
  | succ f ih =>
    intro X h a ha b hb hab hconf sa ea sb eb hsa hea hsb heb
    rcases h with hleaf | ⟨hbk, hnodes⟩
    · exact absurd (((mem_leavesBelow_leaf hleaf).mp ha).trans ((mem_leavesBelow_leaf hleaf).mp hb).symm) hab
    · obtain ⟨eA, heA, haA⟩ := (mem_leavesBelow_comp hbk.comp).mp ha
      obtain ⟨eB, heB, hbB⟩ := (mem_leavesBelow_comp hbk.comp).mp hb
      by_cases hAB : eA.node = eB.node
      · rw [← hAB] at hbB
        exact ih eA.node (hnodes eA heA) a haA b hbB hab hconf sa ea sb eb hsa hea hsb heb
      · obtain ⟨s, hs, hAs⟩ := hbk.cover eA heA
        obtain ⟨s', hs', hBs'⟩ := hbk.cover eB heB
        -- two nodes on a common sequence are separated; otherwise they do not conflict
        have hcommon : ∀ t ∈ cert X, eA.node ∈ layerOps t → eB.node ∈ layerOps t → ea ≤ sb ∨ eb ≤ sa := by
          intro t ht hAt hBt
          obtain ⟨L, rest, rfl, hseq⟩ := hbk.seq t ht
          rcases block_sep hd (hseq.head hbk.notJe).core hseq.layers hseq.side eA.node hAt eB.node hBt hAB
            with h1 | h1 | h1
          · exact Or.inl (sepAfter_leaves hd (hnodes eA heA) (hnodes eB heB) h1 haA hbB hea hsb)
          · exact Or.inr (sepAfter_leaves hd (hnodes eB heB) (hnodes eA heA) h1 hbB haA heb hsa)
          · obtain ⟨L', hL', c, hc, c', hc', hne, hx, hy⟩ := h1
            exact absurd hconf (hseq.sep L' hL' c hc c' hc' hne _ hx _ hy a haA b hbB)
        by_cases h1 : eB.node ∈ layerOps s
        · exact hcommon s hs hAs h1
        · by_cases h2 : eA.node ∈ layerOps s'
          · exact hcommon s' hs' h2 hBs'
          · exact absurd hconf (hbk.cross s hs s' hs' _ hAs _ hBs' h2 h1 a haA b hbB)

theorem leafDur_ne_zero {w : World} {a : Nat} (hl : (w.op a).isComp = false) {sa ea : Int} (hsa : Start w a sa)
    (hea : End w a ea) (hlt : sa < ea) : w.leafDur (w.op a).dur ≠ 0 := by
  intro h0
  obtain ⟨s, d, hs, hdv, heq⟩ := hea.decompose
  have := hdv.unique (durV_leaf hl)
  have := hs.unique hsa
  omega

/-- **Nested blocks of layers never double-book a channel** (`C10.NoDoubleBooking`, the predicate of the library
    clause): for every number of qubits, paths, layers and nesting levels and all non-negative durations. -/
theorem nested_no_double_booking {w : World} (hd : LeafDurNonneg w) {cert : Nat → List (List LayerData)} {c : Nat}
    (hc : (w.op c).isComp = true) (h : Nested w cert (w.ops.size + 2) c) : NoDoubleBooking w c := by
  intro a ha b hb hab hsh sa ea sb eb hsa hea hsb heb hreq
  have hconf : Conflict w a b := by
    refine ⟨hsh, ?_⟩
    rcases hreq with ⟨h1, h2⟩ | h1 | h1
    · exact Or.inr (Or.inr ⟨leafDur_ne_zero (contents_leaf w _ c a ha) hsa hea h1,
        leafDur_ne_zero (contents_leaf w _ c b hb) hsb heb h2⟩)
    · exact Or.inl h1
    · exact Or.inr (Or.inl h1)
  have hmem : ∀ x, x ∈ contents w (w.ops.size + 2) c → x ∈ leavesBelow w (w.ops.size + 2) c := by
    intro x hx
    show x ∈ (if (w.op c).isComp then _ else _)
    rw [if_pos hc]; exact hx
  rcases nested_ordered hd _ c h a (hmem a ha) b (hmem b hb) hab hconf sa ea sb eb hsa hea hsb heb with h1 | h1
  · omega
  · omega

end Qco.C10Param
