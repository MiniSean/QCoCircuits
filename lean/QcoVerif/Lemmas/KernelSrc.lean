import QcoVerif.Lemmas.PyBridge
import QcoVerif.Model.Kernel
/-
  How the model's kernels are presented to the translated source functions of structure/acquisition_indexing/
  (kernel_repetition_code.py, kernel_calibration.py, intrf_index_strategy.py, intrf_index_kernel.py; theorems in
  Properties/C12Src.lean): the `self` objects.
  A `self` carries the dataclass FIELDS and, for every property or method the function under consideration reads, the
  value the MODEL assigns to it — so each `…_matches_source` theorem says "if the other members mean what the model
  says, this member's source text computes what the model says".  The members of one class depend on each other
  acyclically (the order is written out at the head of Properties/C12Src.lean), so the theorems compose to: every member's
  source text computes the model's value.   Core Lean only.
-/
namespace Qco.KernelSrc
open Qco Qco.Py Qco.Kernel

/-- a strategy object: its fields, and the value `get_index` returns as pseudo-field `get_index()`. -/
def strategyObj (s : Strategy) : Val :=
  match s with
  | .fixed i => .obj "FixedIndexStrategy" 1 [("index", .int i), ("get_index()", .int (Strategy.getIndex (.fixed i)))]
  | .relative st => .obj "RelativeIndexStrategy" 1
      [("reference_index_kernel", .obj "IIndexingKernel" 2 [("stop_index", .int st)]),
       ("get_index()", .int (Strategy.getIndex (.relative st)))]

/-- method calls whose arguments the model does not look at are answered from the receiver's `m()` pseudo-field. -/
def fieldMethods : Env :=
  { method := fun recv m _ => match recv with | .obj _ _ fs => lookupField fs (m ++ "()") | _ => Option.none }

/-- `self` of a `RepetitionIndexKernel`. -/
def repFields (k : RepKernel) : List (String × Val) :=
  [("nr_repeated_parities", .int k.nr), ("heralded_initialization", .bool k.heralded),
   ("index_offset_strategy", strategyObj k.strategy),
   ("involved_data_qubit_ids", nats k.dataIds), ("involved_ancilla_qubit_ids", nats k.ancIds),
   ("start_index", .int k.startIndex), ("_exclusive_start_index", .int k.exclStart),
   ("index_delta_heralded_initialization", .int k.dHer),
   ("index_delta_stabilizer_measurements", .int k.dStab),
   ("index_delta_final_measurement", .int k.dFinal),
   ("stop_index", .int k.stopIndex),
   ("involved_qubit_ids", nats k.involved)]

def repSelf (k : RepKernel) : Val := .obj "RepetitionIndexKernel" 0 (repFields k)

/-- the same object with the results of its three element getters for element `e` (pseudo-fields). -/
def repSelfE (k : RepKernel) (e : QId) : Val := .obj "RepetitionIndexKernel" 0
  (repFields k ++
   [("get_heralded_measurement_index()", ints (k.heraldedIdx e)),
    ("get_ordered_stabilizer_measurement_indices()", ints (k.stabIdx e)),
    ("get_final_measurement_index()", ints (k.finalIdx e))])

/-- element getters are answered from the pseudo-fields only when called with exactly the element `e`. -/
def elemMethods (e : QId) : Env :=
  { method := fun recv m args =>
      match args, recv with
      | [.int a], .obj _ _ fs => if a = (e : Int) then lookupField fs (m ++ "()") else Option.none
      | _, _ => Option.none }

/-- `self` of a `QutritCalibrationIndexKernel`. -/
def calFields (c : CalKernel) : List (String × Val) :=
  [("heralded_initialization", .bool c.heralded), ("index_offset_strategy", strategyObj c.strategy),
   ("involved_qubit_ids", nats c.ids),
   ("start_index", .int c.startIndex), ("_exclusive_start_index", .int c.exclStart),
   ("index_delta_heralded_initialization", .int c.dHer),
   ("index_delta_state_0", .int c.d0), ("index_delta_state_1", .int c.d1), ("index_delta_state_2", .int c.d2),
   ("stop_index", .int c.stopIndex)]

def calSelf (c : CalKernel) : Val := .obj "QutritCalibrationIndexKernel" 0 (calFields c)

def calSelfE (c : CalKernel) (e : QId) : Val := .obj "QutritCalibrationIndexKernel" 0
  (calFields c ++
   [("get_heralded_state_0_measurement_index()", ints (c.heralded0 e)),
    ("get_heralded_state_1_measurement_index()", ints (c.heralded1 e)),
    ("get_heralded_state_2_measurement_index()", ints (c.heralded2 e)),
    ("get_state_0_measurement_index()", ints (c.state0 e)),
    ("get_state_1_measurement_index()", ints (c.state1 e)),
    ("get_state_2_measurement_index()", ints (c.state2 e))])

theorem sortInts_eq (l : List Int) : Py.sortInts l = Kernel.sortInts l := by
  unfold Py.sortInts Kernel.sortInts
  induction l with
  | nil => rfl
  | cons a as ih =>
    simp only [List.foldr_cons, ih]
    generalize List.foldr Kernel.insertSorted [] as = m
    induction m with
    | nil => rfl
    | cons b bs ihb => simp only [Py.insertSorted, Kernel.insertSorted, ihb]

/-- an element of `indexing_kernels` as an object. -/
def ikVal : IKernel → Val
  | .rep k => repSelf k
  | .cal c => calSelf c

/-- a 2-d integer array (`create_sliced_arrays`). -/
def arr2 (ll : List (List Int)) : Val := .arr (ll.map (fun l => Val.arr (l.map Val.int)))

/-- `self` of a `RepetitionExperimentKernel` for element `e`: the kernels carry their getter results for `e`. -/
def expFields (K : ExpKernel) (e : QId) : List (String × Val) :=
  [("_repetition_kernels", .list (K.repKernels.map (fun k => repSelfE k e))),
   ("_calibration_kernel", calSelfE K.calKernel e),
   ("_qutrit_calibration_points", .bool K.qutrit), ("_repetitions", .int K.reps),
   ("indexing_kernels", .list (K.indexingKernels.map ikVal)),
   ("start_index", .int K.startIndex), ("kernel_cycle_length", .int K.cycleLength),
   ("experiment_repetitions", .int K.reps)]

def expSelf (K : ExpKernel) (e : QId) : Val := .obj "RepetitionExperimentKernel" 0 (expFields K e)

/-- element getters of the kernels from their pseudo-fields (only for the element `e`), `create_sliced_arrays`
    computed from its ARGUMENTS by the model's `slicedArrays`, `create_sliced_array` by `slicedArray`. -/
def expEnv (e : QId) : Env :=
  { method := fun recv m args =>
      match m, args, recv with
      | "create_sliced_arrays", [.list xs, .int cyc, .int reps], _ =>
          (intsOf? xs).map (fun l => arr2 (slicedArrays l cyc reps.toNat))
      | "create_sliced_array", [.list xs, .int cyc, .int reps], _ =>
          (intsOf? xs).map (fun l => Val.arr ((slicedArray l cyc reps.toNat).map Val.int))
      | _, [.int a], .obj _ _ fs => if a = (e : Int) then lookupField fs (m ++ "()") else Option.none
      | _, _, _ => Option.none }

@[py_eval] theorem expEnv_sliced_arrays (e : QId) (recv : Val) (xs : List Val) (cyc reps : Int) :
    (expEnv e).method recv "create_sliced_arrays" [.list xs, .int cyc, .int reps] =
      (intsOf? xs).map (fun l => arr2 (slicedArrays l cyc reps.toNat)) := rfl

@[py_eval] theorem expEnv_sliced_array (e : QId) (recv : Val) (xs : List Val) (cyc reps : Int) :
    (expEnv e).method recv "create_sliced_array" [.list xs, .int cyc, .int reps] =
      (intsOf? xs).map (fun l => Val.arr ((slicedArray l cyc reps.toNat).map Val.int)) := rfl

@[py_eval] theorem expEnv_getter (e : QId) (c : String) (i : Nat) (fs : List (String × Val)) (m : String) :
    (expEnv e).method (.obj c i fs) m [.int e] = lookupField fs (m ++ "()") := by
  simp [expEnv]

theorem ikVal_start (k : IKernel) : getAttr {} (ikVal k) "start_index" = .int k.startIndex := by
  cases k <;> py_simp [ikVal, repSelf, repFields, calSelf, calFields, IKernel.startIndex]

theorem ikVal_stop (k : IKernel) : getAttr {} (ikVal k) "stop_index" = .int k.stopIndex := by
  cases k <;> py_simp [ikVal, repSelf, repFields, calSelf, calFields, IKernel.stopIndex]

theorem expSelf_indexing (K : ExpKernel) (e : QId) :
    getAttr {} (expSelf K e) "indexing_kernels" = .list (K.indexingKernels.map ikVal) := by
  py_simp [expSelf, expFields]

/-- value of a cycle getter: the 2-d array of the model, or the empty 1-d array when no kernel has that round count. -/
def cycleVal : Option (List (List Int)) → Val
  | some ll => arr2 ll
  | none => .arr []

/-- the loop of the three cycle getters (`for repetition_kernel in self._repetition_kernels: if … == count: return …`),
    for a body that returns `R k` on a kernel with the requested round count and continues otherwise. -/
theorem cycle_loop (e : QId) (count : Nat) (stmts : List Stmt) (R : RepKernel → Val) (vs0 : Vars)
    (hbody : ∀ k : RepKernel, execBlock (expEnv e) (vs0.set "repetition_kernel" (repSelfE k e)) stmts =
      if k.nr == count then .ret (R k) else .cont (vs0.set "repetition_kernel" (repSelfE k e))) :
    ∀ (ks : List RepKernel) (vs : Vars), (∀ v, vs.set "repetition_kernel" v = vs0.set "repetition_kernel" v) →
      (match ks.find? (fun k => k.nr == count) with
       | some k => forLoop (fun vs' v => execBlock (expEnv e) (vs'.set "repetition_kernel" v) stmts)
                      (ks.map (fun k => repSelfE k e)) vs = .ret (R k)
       | none => ∃ vs'', forLoop (fun vs' v => execBlock (expEnv e) (vs'.set "repetition_kernel" v) stmts)
                      (ks.map (fun k => repSelfE k e)) vs = .cont vs'') := by
  intro ks
  induction ks with
  | nil => intro vs _; exact ⟨vs, rfl⟩
  | cons k rest ih =>
    intro vs hvs
    simp only [List.map_cons, forLoop, hvs, hbody k, List.find?_cons]
    cases hk : (k.nr == count)
    · simp only [Bool.false_eq_true, if_false]
      exact ih _ (fun v => vars_set_set vs0 _ _ v)
    · simp only [if_true]

/-- a cycle getter: the loop of `cycle_loop` over the repetition kernels, then the empty array of "no such kernel". -/
theorem cycle_getter (e : QId) (count : Nat) (K : ExpKernel) (fn : FnDef) (stmts : List Stmt) (R : RepKernel → List (List Int))
    (hparams : fn.params = ["self", "qubit_id", "cycle_stabilizer_count"])
    (hbody : fn.body = [.for_ "repetition_kernel" (.attr (.name "self") "_repetition_kernels") stmts,
      .ret (.call "np.asarray" [.list []])])
    (hstep : ∀ k : RepKernel,
      execBlock (expEnv e) ((bindParams fn.params [expSelf K e, .int e, .int count] []).set "repetition_kernel" (repSelfE k e)) stmts =
        if k.nr == count then .ret (arr2 (R k))
        else .cont ((bindParams fn.params [expSelf K e, .int e, .int count] []).set "repetition_kernel" (repSelfE k e))) :
    callFn (expEnv e) fn [expSelf K e, .int e, .int count] = cycleVal ((K.findKernel count).map R) := by
  have L := cycle_loop e count stmts (fun k => arr2 (R k)) _ hstep K.repKernels _ (fun _ => rfl)
  have hiter : (eval (expEnv e) (bindParams fn.params [expSelf K e, .int e, .int count] [])
      (.attr (.name "self") "_repetition_kernels")).elems? = some (K.repKernels.map (fun k => repSelfE k e)) := by
    py_simp [hparams, expSelf, expFields]
  rw [callFn_of_arity _ _ _ (by rw [hparams]; rfl), hbody, execBlock_for _ _ _ _ _ _ _ hiter]
  unfold ExpKernel.findKernel
  cases hf : K.repKernels.find? (fun k => k.nr == count) with
  | none =>
    rw [hf] at L
    obtain ⟨vs'', hv⟩ := L
    rw [hv]
    py_simp [cycleVal]
  | some k =>
    rw [hf] at L
    rw [L]
    rfl
end Qco.KernelSrc
