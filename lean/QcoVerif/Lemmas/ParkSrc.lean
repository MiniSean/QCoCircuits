import QcoVerif.Lemmas.FreqSrc
/-
  C16 — source tie of `get_requires_parking` (connectivity/connectivity_surface_code.py): the translated source, run by the
  interpreter of Model/PyLang.lean, computes the model's `Conn.requiresParking` for ALL qubits and ALL lists of edges.
  Core Lean only.
-/
namespace Qco.ParkSrc
open Qco Qco.Py Qco.Gen.PySrc Qco.Conn Qco.FreqSrc

/-- the environment of `get_requires_parking`: as `FreqSrc.connEnv2`, and the two `get_neighbors` (the module function on an edge,
    the method of the connectivity layer with order 1) answered by the model's `edgeNeighbors / neighbors`. -/
def parkEnv : Env :=
  { method := fun recv m args =>
      if m == "get_neighbors" then
        (match recv, args with
         | .obj _ _ _, [.int q, .int k] =>
             if k == 1 then some (.list ((neighbors q.toNat).map (fun (n : Nat) => Val.int n))) else Option.none
         | _, _ => Option.none)
      else connEnv.method recv m args
    func := fun f args =>
      if f == "on_moving_side" then some (movingSrc args)
      else if f == "get_neighbors" then
        (match args with
         | [ev, _] => (decodeEdge ev).map (fun e => Val.list ((edgeNeighbors e).map (fun (n : Nat) => Val.int n)))
         | _ => Option.none)
      else Option.none }

@[py_eval] theorem parkEnv_edge_neighbors (e : Edge) (conn : Val) :
    parkEnv.func "get_neighbors" [edgeVal e, conn] = some (.list ((edgeNeighbors e).map (fun (n : Nat) => Val.int n))) := rfl

@[py_eval] theorem parkEnv_on_moving_side (q : Nat) (e : Edge) (conn : Val) :
    parkEnv.func "on_moving_side" [.int q, edgeVal e, conn] = some (.bool (onMovingSide q e)) :=
  congrArg some (movingSrc_eq q e conn)

@[py_eval] theorem parkEnv_contains (e : Edge) (q : Nat) : parkEnv.method (edgeVal e) "contains" [.int q] = some (.bool (e.has q)) := rfl

@[py_eval] theorem parkEnv_freq (c : String) (i : Nat) (fs : List (String × Val)) (q : Nat) :
    parkEnv.method (.obj c i fs) "get_frequency_group_identifier" [.int q] = some (freqObj (freqOf q)) := rfl

@[py_eval] theorem parkEnv_neighbors (c : String) (i : Nat) (fs : List (String × Val)) (q : Nat) :
    parkEnv.method (.obj c i fs) "get_neighbors" [.int q, .int 1] =
      some (.list ((neighbors q).map (fun (n : Nat) => Val.int n))) := rfl

@[py_eval] theorem parkEnv_higher (a b : Freq) : parkEnv.method (freqObj a) "is_higher_than" [freqObj b] = some (.bool (a.isHigher b)) :=
  congrArg some (higherSrc_eq a b)

theorem memBy_qEq (x : Nat) (l : List Nat) : memBy qEq x l = decide (x ∈ l) := by
  unfold memBy qEq
  induction l with
  | nil => rfl
  | cons a as ih =>
    rw [List.any_cons, ih]
    by_cases h : a = x
    · subst h; simp
    · have h2 : ¬ (x = a) := fun h' => h h'.symm
      simp [h, h2]

theorem builtin_np_any (l : List Val) :
    builtin "np.any" [.list l] = some (.bool (l.any (fun x => x.truthy == some true))) := Py.builtin_np_any _
theorem builtin_any (l : List Val) :
    builtin "any" [.list l] = some (.bool (l.any (fun x => x.truthy == some true))) := Py.builtin_any _
theorem builtin_zip3 (a b c : List Val) :
    builtin "zip" [.list a, .list b, .list c] =
      some (.list (List.zipWith (fun x yz => Val.tuple (x :: yz)) a (List.zipWith (fun y z => [y, z]) b c))) :=
  Py.builtin_zip3 _ _ _
@[py_eval] theorem builtin_get_neighbors (a b : Val) : builtin "get_neighbors" [a, b] = Option.none :=
  builtin_none _ _ (by simp [builtinNames])
theorem builtin_on_moving_side (a b c : Val) : builtin "on_moving_side" [a, b, c] = Option.none :=
  FreqSrc.builtin_on_moving_side _

theorem zip3_map {α} (P : List α) (f g h : α → Val) :
    List.zipWith (fun x yz => Val.tuple (x :: yz)) (P.map f) (List.zipWith (fun y z => [y, z]) (P.map g) (P.map h)) =
      P.map (fun p => Val.tuple [f p, g p, h p]) := by
  induction P with
  | nil => rfl
  | cons a as ih => simp only [List.map_cons, List.zipWith_cons_cons, ih]

/-- the model's pairs (neighbour of `q` taking part in a gate, that gate). -/
def pairsOf (nb : List Nat) (es : List Edge) : List (Nat × Edge) :=
  es.flatMap (fun e => e.qubits.filterMap (fun x => if memBy qEq x nb then some (x, e) else none))

def qv (p : Nat × Edge) : Val := .int p.1
def ev (p : Nat × Edge) : Val := edgeVal p.2

/-- what the two loops keep: the bindings made before them, and the two lists over the pairs found so far. -/
def LoopVars (q : Nat) (es : List Edge) (conn : Val) (P : List (Nat × Edge)) (vs : Vars) : Prop :=
  vs.get "edge_ids" = .list (es.map edgeVal) ∧ vs.get "connectivity" = conn ∧
  vs.get "frequency_group" = freqObj (freqOf q) ∧
  vs.get "neighboring_qubit_ids" = .list ((neighbors q).map (fun (n : Nat) => Val.int n)) ∧
  vs.get "involved_neighbors" = .list (P.map qv) ∧ vs.get "involved_neighbor_edges" = .list (P.map ev)

/-- the bodies of the two loops (`abbrev`s: see `BuilderSrc.decBody`). -/
abbrev innerBody : List Stmt :=
  [.ifs (.cmp .in_ (.name "qubit_id") (.name "neighboring_qubit_ids"))
    [.aug "involved_neighbors" .add (.list [.name "qubit_id"]), .aug "involved_neighbor_edges" .add (.list [.name "edge_id"])] []]
abbrev outerBody : List Stmt := [.for_ "qubit_id" (.attr (.name "edge_id") "qubit_ids") innerBody]

/-- one round of the inner loop: the qubit is recorded, with the edge, iff it is a neighbour. -/
theorem inner_step (q : Nat) (es : List Edge) (conn : Val) (P : List (Nat × Edge)) (e : Edge) (x : Nat) (vs : Vars)
    (hv : LoopVars q es conn P vs ∧ vs.get "edge_id" = edgeVal e) :
    (execBlock parkEnv (vs.set "qubit_id" (.int x)) innerBody).contWith (fun vs' =>
      LoopVars q es conn (P ++ (if memBy qEq x (neighbors q) then [(x, e)] else [])) vs' ∧ vs'.get "edge_id" = edgeVal e) := by
  obtain ⟨⟨h1, h2, h3, h4, h5, h6⟩, h7⟩ := hv
  py_simp [h1, h2, h3, h4, h5, h6, h7, LoopVars, memBy_qEq]
  split <;> simp [*, qv, ev]

/-- one round of the outer loop: the inner loop over the two ends of the edge. -/
theorem edge_step (q : Nat) (es : List Edge) (conn : Val) (done : List Edge) (e : Edge) (vs : Vars)
    (hv : LoopVars q es conn (pairsOf (neighbors q) done) vs) :
    (execBlock parkEnv (vs.set "edge_id" (edgeVal e)) outerBody).contWith
      (LoopVars q es conn (pairsOf (neighbors q) (done ++ [e]))) := by
  obtain ⟨h1, h2, h3, h4, h5, h6⟩ := hv
  obtain ⟨vs', ⟨hI, -⟩, hx⟩ := execBlock_for_inv parkEnv "qubit_id" (.attr (.name "edge_id") "qubit_ids") innerBody []
    (fun (x : Nat) => Val.int x)
    (fun doneQ vs' => LoopVars q es conn (pairsOf (neighbors q) done ++
        doneQ.filterMap (fun x => if memBy qEq x (neighbors q) then some (x, e) else none)) vs' ∧ vs'.get "edge_id" = edgeVal e)
    [e.1, e.2] (vs.set "edge_id" (edgeVal e))
    (by py_simp [])
    (by
      intro doneQ x vs' hv'
      have := inner_step q es conn _ e x vs' hv'
      cases hm : memBy qEq x (neighbors q) <;> simpa [hm, List.filterMap_append] using this)
    (by simp [LoopVars, Vars.get_set, h1, h2, h3, h4, h5, h6])
  rw [hx]
  simpa [execBlock_nil, Outcome.contWith_cont, pairsOf, Edge.qubits, List.flatMap_append] using hI

/-- **`get_requires_parking`**: the translated source computes the model's `requiresParking`, for every qubit, every list of
    edges and every connectivity object. -/
theorem requires_parking_matches_source_obj (q : Nat) (es : List (Nat × Nat)) (cls : String) (i : Nat) (fs : List (String × Val)) :
    callFn parkEnv Conn_get_requires_parking [.int q, .list (es.map edgeVal), .obj cls i fs] =
      .bool (requiresParking q es) := by
  simp only [requiresParking, memBy_qEq]
  -- the two guards return before anything else is looked at
  cases hsp : es.any (fun e => decide (q ∈ edgeNeighbors e))
  · py_simp [Conn_get_requires_parking, Function.comp_def, any_truthy_bool, hsp]
  cases hin : es.any (fun e => Edge.has e q)
  case true =>
    py_simp [Conn_get_requires_parking, Function.comp_def, any_truthy_bool, hsp, hin]
  -- past them: the eight statements before the loops
  obtain ⟨vs8, h8, hx8, -⟩ := block_append_cont parkEnv
    (((Vars.set [] "element" (.int q)).set "edge_ids" (.list (es.map edgeVal))).set "connectivity" (.obj cls i fs))
    (Conn_get_requires_parking.body.take 8)
    (.for_ "edge_id" (.name "edge_ids") outerBody :: Conn_get_requires_parking.body.drop 9)
    (LoopVars q es (.obj cls i fs) [])
    (by
      py_simp [Conn_get_requires_parking, Function.comp_def, any_truthy_bool, hsp, hin, LoopVars])
  -- the loops
  obtain ⟨vs9, ⟨-, h2, h3, -, h5, h6⟩, hx9⟩ := execBlock_for_inv parkEnv "edge_id" (.name "edge_ids") outerBody
    (Conn_get_requires_parking.body.drop 9) edgeVal (fun done => LoopVars q es (.obj cls i fs) (pairsOf (neighbors q) done))
    es vs8 (by py_simp [h8.1]) (edge_step q es _) h8
  rw [callFn_of_arity _ _ _ rfl]
  show (execBlock parkEnv
    (((Vars.set [] "element" (.int q)).set "edge_ids" (.list (es.map edgeVal))).set "connectivity" (.obj cls i fs))
    (Conn_get_requires_parking.body.take 8 ++
      .for_ "edge_id" (.name "edge_ids") outerBody :: Conn_get_requires_parking.body.drop 9)).val = _
  rw [hx8, hx9]
  -- after them: the frequency groups of the neighbours found, and the final `any` over the three lists zipped
  py_simp [Conn_get_requires_parking, h2, h3, h5, h6, Function.comp_def, zip3_map, qv, ev, any_truthy_bool,
    pairsOf, memBy_qEq]

theorem requires_parking_matches_source (q : Nat) (es : List (Nat × Nat)) (conn : Val) (hconn : conn = .obj "Surface17Layer" 0 []) :
    callFn parkEnv Conn_get_requires_parking [.int q, .list (es.map edgeVal), conn] = .bool (requiresParking q es) := by
  subst hconn
  exact requires_parking_matches_source_obj q es _ _ _

end Qco.ParkSrc
