import QcoVerif.Lemmas.PyBridge
import QcoVerif.Model.Builder
/-
  Source ties of the BUILDER (structure/intrf_circuit_operation_composite.py): `add_to_graph`, `get_corresponding_node`,
  `decomposed_operations`, `extend`, `repeat`, `apply_modifiers_to_self`, `apply_flatten_to_self`, `copy` (`add`:
  Properties/C05Src.lean).
  These functions act on objects; the fragment of Model/PyLang.lean does not execute such effects, it RECORDS them
  (`Py.callEffects`): the theorems state, for all inputs, the exact sequence of effects the source text performs as a function of
  the answers of its pure queries — the step structure of `World.addToGraph / decomposed / extend / applyModifiers / flatten /
  copyObj`.  For `add_to_graph` the same decision table is proved to drive the model function (`addToGraph_by_decision`).
  Core Lean only.
-/
namespace Qco.BuilderSrc
open Qco Qco.Py Qco.Gen.PySrc

/-- constructors, static methods and module functions are uninterpreted (structural values); methods whose result is a pure
    query are answered from the receiver's pseudo-fields. -/
def builderEnv : Env :=
  { func := fun f args => match f, args with
      | "OperationGraphNode", [.tuple [.str "operation", op]] => some (.obj "Node" 70 [("operation", op)])
      | _, _ => some (.tuple (.str f :: args))
    method := fun recv m _ => match recv with | .obj _ _ fs => lookupField fs (m ++ "()") | _ => Option.none }

def opObj (n : Nat) (extra : List (String × Val)) : Val := .obj "Operation" n extra
def nodeOf (n : Nat) : Val := .obj "Node" (1000 + n) [("operation", opObj n [])]
def optNode : Option Nat → Val
  | none => .none
  | some n => nodeOf n
def rootNode : Val := .obj "Node" 999 []

/-- the operation being added: `has_relation`, and its link's reference node (identity 77). -/
def newOpObj (hasRel : Bool) : Val :=
  opObj 50 [("channel_identifiers", .list []), ("has_relation", .bool hasRel),
            ("relation_link", .obj "Link" 51 [("reference_node", opObj 77 [])])]

def graphObj (leaf relNode : Option Nat) : Val :=
  .obj "Graph" 60 [("root_node", rootNode), ("get_leaf_at_any()", optNode leaf), ("get_corresponding_node()", optNode relNode)]

/-- the node `add_to_graph` creates for the operation. -/
def newNode (hasRel : Bool) : Val := .obj "Node" 70 [("operation", newOpObj hasRel)]

def evAppend (g parent node : Val) : Val := .tuple [.str "call", g, .str "append_pointer_to", parent, node]
def evRelink (op link : Val) : Val := .tuple [.str "setattr", op, .str "relation_link", link]
def linkTo (n : Nat) : Val := .tuple [.str "RelationLink", .tuple [.str "_reference_node", opObj n []]]
def noRelation : Val := .tuple [.str "RelationLink.no_relation"]
def evWarn : Val := .tuple [.str "call", .none, .str "warnings.warn", .str "<f-string>"]

/-- the decision table of `add_to_graph`, as the list of effects per case (what `World.addToGraph` does:
    keep / relink under the leaf / attach under the reference / warn and relink). -/
def addEffects (hasRel : Bool) (leaf relNode : Option Nat) : List Val :=
  let g := graphObj leaf relNode
  let nd := newNode hasRel
  match hasRel, leaf, relNode with
  | false, none, _ => [evAppend g rootNode nd]
  | false, some l, _ => [evRelink (newOpObj hasRel) (linkTo l), evAppend g (nodeOf l) nd]
  | true, _, some r => [evAppend g (nodeOf r) nd]
  | true, none, none => [evWarn, evRelink (newOpObj hasRel) noRelation, evAppend g rootNode nd]
  | true, some l, none => [evWarn, evRelink (newOpObj hasRel) (linkTo l), evAppend g (nodeOf l) nd]

theorem optNode_some (n : Nat) : optNode (some n) = nodeOf n := rfl
@[py_eval] theorem optNode_isErr (o : Option Nat) : (optNode o).isErr = false := by cases o <;> rfl

@[py_eval] theorem builderEnv_method (c : String) (i : Nat) (fs : List (String × Val)) (m : String) (args : List Val) :
    builderEnv.method (.obj c i fs) m args = lookupField fs (m ++ "()") := rfl

@[py_eval] theorem builderEnv_node (op : Val) :
    builderEnv.func "OperationGraphNode" [.tuple [.str "operation", op]] = some (.obj "Node" 70 [("operation", op)]) := rfl

@[py_eval] theorem builderEnv_func (f : String) (args : List Val) (h : f ≠ "OperationGraphNode") :
    builderEnv.func f args = some (.tuple (.str f :: args)) := by
  simp only [builderEnv]
  split
  · exact absurd rfl h
  · rfl

@[py_eval] theorem builtin_builder (args : List Val) :
    builtin "OperationGraphNode" args = none ∧ builtin "RelationLink" args = none ∧
    builtin "RelationLink.no_relation" args = none ∧
    builtin "MultiRelationLink" args = none ∧ builtin "warnings.warn" args = none ∧
    builtin "FixedRepetitionStrategy" args = none ∧ builtin "CircuitGraphBranch" args = none ∧
    builtin "CircuitGraphBranch.add_to_graph" args = none ∧ builtin "CircuitCompositeOperation" args = none ∧
    builtin "DeclarativeCircuit" args = none := by
  refine ⟨?_, ?_, ?_, ?_, ?_, ?_, ?_, ?_, ?_, ?_⟩ <;> exact builtin_none _ _ (by simp [builtinNames])

theorem add_to_graph_matches_source (hasRel : Bool) (leaf relNode : Option Nat) :
    callEffects builderEnv Graph_add_to_graph [graphObj leaf relNode, newOpObj hasRel] = addEffects hasRel leaf relNode ∧
    callFn builderEnv Graph_add_to_graph [graphObj leaf relNode, newOpObj hasRel] = graphObj leaf relNode := by
  -- one run per row of the decision table; the answer that a row does not look at stays a variable
  cases hasRel
  · cases leaf <;>
    py_simp [Graph_add_to_graph, graphObj, newOpObj, opObj, optNode_some, optNode, nodeOf, rootNode, addEffects,
      newNode, evAppend, evRelink, linkTo]
  · cases relNode
    · cases leaf <;>
      py_simp [Graph_add_to_graph, graphObj, newOpObj, opObj, optNode, nodeOf, rootNode, addEffects, newNode,
        evAppend, evRelink, linkTo, noRelation, evWarn]
    · py_simp [Graph_add_to_graph, graphObj, newOpObj, opObj, optNode_some, nodeOf, addEffects, newNode, evAppend]

inductive AddDecision
  | root                 -- no relation, first on its channels: under the root, link kept
  | relinkUnder (l : Nat)  -- no relation: fresh FOLLOWED_BY link to the leaf, under the leaf
  | under (r : Nat)      -- relation whose reference is a node of this graph: under that node, link kept
  | warnRoot             -- reference not in this graph, first on its channels: warning, fresh empty link, under the root
  | warnUnder (l : Nat)  -- reference not in this graph: warning, fresh link to the leaf, under the leaf
  deriving DecidableEq, Repr

def addDecision (hasRel : Bool) (leaf relNode : Option Nat) : AddDecision :=
  match hasRel, leaf, relNode with
  | false, none, _ => .root
  | false, some l, _ => .relinkUnder l
  | true, _, some r => .under r
  | true, none, none => .warnRoot
  | true, some l, none => .warnUnder l

/-- the effects of `add_to_graph` are a function of the decision. -/
theorem addEffects_by_decision (hasRel : Bool) (leaf relNode : Option Nat) :
    addEffects hasRel leaf relNode =
      (match addDecision hasRel leaf relNode with
       | .root => [evAppend (graphObj leaf relNode) rootNode (newNode hasRel)]
       | .relinkUnder l => [evRelink (newOpObj hasRel) (linkTo l), evAppend (graphObj leaf relNode) (nodeOf l) (newNode hasRel)]
       | .under r => [evAppend (graphObj leaf relNode) (nodeOf r) (newNode hasRel)]
       | .warnRoot => [evWarn, evRelink (newOpObj hasRel) noRelation, evAppend (graphObj leaf relNode) rootNode (newNode hasRel)]
       | .warnUnder l => [evWarn, evRelink (newOpObj hasRel) (linkTo l), evAppend (graphObj leaf relNode) (nodeOf l) (newNode hasRel)]) := by
  cases hasRel <;> cases leaf <;> cases relNode <;> rfl

/-- what the MODEL does for a decision. -/
def applyDecision (w : World) (g : List Entry) (o : Nat) : AddDecision → World × List Entry
  | .root => (w, attach g none o)
  | .relinkUnder l => (((w.newLink { refs := [l] }).1.setLink o (w.newLink { refs := [l] }).2), attach g (some l) o)
  | .under r => (w, attach g (some r) o)
  | .warnRoot =>
      let w1 := { w with warnings := w.warnings + 1 }
      (((w1.newLink {}).1.setLink o (w1.newLink {}).2), attach g none o)
  | .warnUnder l =>
      let w1 := { w with warnings := w.warnings + 1 }
      (((w1.newLink { refs := [l] }).1.setLink o (w1.newLink { refs := [l] }).2), attach g (some l) o)

/-- the node of graph `g` that carries the reference of `o`'s link (`get_corresponding_node`), when that reference is defined. -/
def relNodeOf (w : World) (g : List Entry) (o : Nat) : Option Nat :=
  match w.refOf (w.op o).link with
  | some (some r) => if inGraph g r then some r else none
  | _ => none

/-- **`World.addToGraph` is the decision table of the source**, whenever the reference of `o`'s link is defined (a cyclic
    group link makes the code raise RecursionError: the model's sticky `undef`). -/
theorem addToGraph_by_decision (w : World) (g : List Entry) (o : Nat)
    (hdef : w.hasRel o = true → ∃ r, w.refOf (w.op o).link = some (some r)) :
    w.addToGraph g o =
      applyDecision w g o (addDecision (w.hasRel o) (w.leafAtAny g (w.chansOf o)) (relNodeOf w g o)) := by
  unfold World.addToGraph
  cases hr : w.hasRel o
  · cases w.leafAtAny g (w.chansOf o) <;>
      simp [addDecision, applyDecision, World.newLink]
  · obtain ⟨r, hrf⟩ := hdef hr
    cases w.leafAtAny g (w.chansOf o) <;> by_cases hin : inGraph g r = true <;>
      simp [hrf, hin, addDecision, applyDecision, relNodeOf, World.newLink]

/-- a node of the graph being walked: operation `n` with `has_relation = hr` and the listing `sub` of its own decomposition. -/
def walkNode (p : Nat × Bool × List Nat) : Val :=
  .obj "Node" (1000 + p.1) [("operation", .obj "Operation" p.1 [("has_relation", .bool p.2.1), ("decomposed_operations()", nats p.2.2)])]

def walkOp (p : Nat × Bool × List Nat) : Val :=
  .obj "Operation" p.1 [("has_relation", .bool p.2.1), ("decomposed_operations()", nats p.2.2)]

def selfLink : Val := .obj "Link" 5 []

def compSelf (nodes : List (Nat × Bool × List Nat)) : Val :=
  .obj "CircuitCompositeOperation" 1
    [("_circuit_graph", .obj "Graph" 2 [("get_node_iterator()", .list (nodes.map walkNode))]), ("relation_link", selfLink)]

/-- the body of the loop of `decomposed_operations`.  An `abbrev`, as every loop body named for a loop lemma: the lemma's
    conclusion has to rewrite the run of the generated function, where the body stands written out, and `rw`/`simp` see
    through a reducible name only (a run of the body itself then needs no unfolding either); under a `def` (`ScanSrc.loopBody`,
    `UniqSrc.body`) the name must first be unfolded in the lemma's conclusion (`unfold … at`). -/
abbrev decBody : List Stmt :=
  [.ifs (.not (.attr (.attr (.name "node") "operation") "has_relation"))
      [.setattr (.attr (.name "node") "operation") "relation_link" (.attr (.name "self") "relation_link")] [],
   .aug "result" .add (.call "list" [.mcall (.attr (.name "node") "operation") "decomposed_operations" []])]

def decEffects (nodes : List (Nat × Bool × List Nat)) : List Val :=
  nodes.flatMap (fun p => if p.2.1 then [] else [Val.tuple [.str "setattr", walkOp p, .str "relation_link", selfLink]])

/-- **`decomposed_operations`**: hands the enclosing link to every relation-less node (an effect on that operation), and returns
    the concatenation of the nodes' own decompositions — the step of `World.decomposed`. -/
theorem decomposed_matches_source (nodes : List (Nat × Bool × List Nat)) :
    callFn builderEnv Composite_decomposed [compSelf nodes] = nats ((nodes.map (·.2.2)).flatten) ∧
    callEffects builderEnv Composite_decomposed [compSelf nodes] = decEffects nodes := by
  -- the loop: `result` collects the nodes' own listings
  obtain ⟨vs', ⟨_, hr⟩, hx, hf⟩ := block_for_inv builderEnv "node"
    (.mcall (.attr (.name "self") "_circuit_graph") "get_node_iterator" []) decBody [.ret (.name "result")] walkNode
    (fun done vs => vs.get "self" = compSelf nodes ∧ vs.get "result" = nats (done.map (·.2.2)).flatten)
    (fun p => if p.2.1 then [] else [Val.tuple [.str "setattr", walkOp p, .str "relation_link", selfLink]])
    nodes ((Vars.set [] "self" (compSelf nodes)).set "result" (.list []))
    (by py_simp [compSelf])
    (by
      intro done p vs ⟨hs, hr⟩
      py_simp [walkNode, walkOp, hs, hr, compSelf, selfLink]
      cases p.2.1 <;> rfl)
    ⟨by simp [Vars.get_set], by simp [Vars.get_set, nats]⟩
  constructor
  · py_simp [Composite_decomposed]
    rw [hx]
    py_simp [hr]
  · py_simp [Composite_decomposed]
    rw [hf]
    py_simp [decEffects]

/-- the operation `n` of a node of `other`, with `has_relation = hr`, and the node holding it. -/
def extOp (p : Nat × Bool) : Val := .obj "Operation" p.1 [("has_relation", .bool p.2)]
def extNode (p : Nat × Bool) : Val := .obj "Node" (1000 + p.1) [("operation", extOp p)]
/-- a leaf node of `self`'s graph (`is_root` false) / the root node as only "leaf" of an empty graph. -/
def leafNode (n : Nat) : Val := .obj "Node" (2000 + n) [("operation", .obj "Operation" n []), ("is_root", .bool false)]
def rootLeaf : Val := .obj "Node" 999 [("is_root", .bool true)]

/-- `leaf_nodes` of the graph: the root alone iff the graph is empty (`lv = []`), else the leaves. -/
def leafNodesVal (lv : List Nat) : Val := if lv.isEmpty then .list [rootLeaf] else .list (lv.map leafNode)

def extSelf (lv : List Nat) : Val :=
  .obj "CircuitCompositeOperation" 1 [("_circuit_graph", .obj "Graph" 2 [("leaf_nodes", leafNodesVal lv)])]
def extOther (nodes : List (Nat × Bool)) : Val :=
  .obj "CircuitCompositeOperation" 3 [("_circuit_graph", .obj "Graph" 4 [("get_node_iterator()", .list (nodes.map extNode))])]

/-- the relation the appended nodes get: none for an empty graph, else the group link to the leaves (LATEST, FOLLOWED_BY). -/
def extRelation (lv : List Nat) : Val :=
  if lv.isEmpty then .tuple [.str "RelationLink.no_relation"]
  else .tuple [.str "MultiRelationLink", .tuple [.str "_reference_nodes", .list (lv.map (fun n => Val.obj "Operation" n []))],
               .tuple [.str "_relation_to_group", .enum "MultiRelationType" "LATEST"],
               .tuple [.str "_relation_type", .enum "RelationType" "FOLLOWED_BY"]]

theorem extRelation_ok (lv : List Nat) : (extRelation lv).isErr = false := by
  unfold extRelation; split <;> rfl

def extEffects (lv : List Nat) (nodes : List (Nat × Bool)) : List Val :=
  nodes.flatMap (fun p =>
    (if p.2 then [] else [Val.tuple [.str "setattr", extOp p, .str "relation_link", extRelation lv]]) ++
    [Val.tuple [.str "call", extSelf lv, .str "add", extOp p]])

abbrev extBody : List Stmt :=
  [.ifs (.not (.attr (.attr (.name "node") "operation") "has_relation"))
      [.setattr (.attr (.name "node") "operation") "relation_link" (.name "relation")] [],
   .expr (.mcall (.name "self") "add" [.attr (.name "node") "operation"])]

theorem extend_matches_source (lv : List Nat) (nodes : List (Nat × Bool)) :
    callEffects builderEnv Composite_extend [extSelf lv, extOther nodes] = extEffects lv nodes := by
  -- the four statements before the loop bind `relation` to `extRelation lv` (for a non-empty graph the root test fails,
  -- whatever the number of leaves) and perform nothing
  obtain ⟨vs4, ⟨k1, k2, k3⟩, -, hf4⟩ := block_append_cont builderEnv
    ((Vars.set [] "self" (extSelf lv)).set "other" (extOther nodes)) (Composite_extend.body.take 4)
    [.for_ "node" (.mcall (.attr (.name "other") "_circuit_graph") "get_node_iterator" []) extBody, .ret (.name "self")]
    (fun vs => vs.get "self" = extSelf lv ∧ vs.get "other" = extOther nodes ∧ vs.get "relation" = extRelation lv)
    (by
      cases lv <;>
      py_simp [Composite_extend, extSelf, leafNodesVal, rootLeaf, leafNode, extRelation, Function.comp_def])
  -- the loop: the invariant is the three bindings; every node is relinked iff it has no relation, then added
  obtain ⟨vs', -, -, hf⟩ := block_for_inv builderEnv "node"
    (.mcall (.attr (.name "other") "_circuit_graph") "get_node_iterator" []) extBody [.ret (.name "self")] extNode
    (fun _ vs => vs.get "self" = extSelf lv ∧ vs.get "relation" = extRelation lv)
    (fun p => (if p.2 then [] else [Val.tuple [.str "setattr", extOp p, .str "relation_link", extRelation lv]]) ++
      [Val.tuple [.str "call", extSelf lv, .str "add", extOp p]])
    nodes vs4
    (by py_simp [k2, extOther])
    (by
      intro _ p vs ⟨hs, hr⟩
      py_simp [extNode, extOp, hs, hr, extRelation_ok, extSelf]
      cases p.2 <;> simp)
    ⟨k1, k3⟩
  have hpre : effBlock builderEnv ((Vars.set [] "self" (extSelf lv)).set "other" (extOther nodes)) (Composite_extend.body.take 4) = [] := by
    cases lv <;>
    py_simp [Composite_extend, extSelf, leafNodesVal, rootLeaf, leafNode, Function.comp_def]
  rw [callEffects_of_arity _ _ _ rfl]
  show effBlock builderEnv ((Vars.set [] "self" (extSelf lv)).set "other" (extOther nodes))
    (Composite_extend.body.take 4 ++ _) = _
  rw [hf4, hpre, hf]
  py_simp [extEffects]

def plainNode (n : Nat) : Val := .obj "Node" (1000 + n) [("operation", .obj "Operation" n [])]
def plainOp (n : Nat) : Val := .obj "Operation" n []

def amSelf (count : Int) (nodes : List Nat) : Val :=
  .obj "CircuitCompositeOperation" 1
    [("nr_of_repetitions", .int count), ("_circuit_graph", .obj "Graph" 2 [("get_node_iterator()", .list (nodes.map plainNode))])]

theorem flatMap_const {α β} (x : β) (l : List α) : l.flatMap (fun _ => [x]) = List.replicate l.length x := by
  induction l with
  | nil => rfl
  | cons a as ih => simp [List.flatMap_cons, List.replicate_succ, ih]

/-- **`apply_modifiers_to_self`**: `repeat(times = count)`, then the count becomes `FixedRepetitionStrategy(1)`, then every node of
    the (now extended) graph is asked to apply its own modifiers — the three phases of `World.applyModifiers`. -/
theorem apply_modifiers_matches_source (count : Int) (nodes : List Nat) :
    callEffects builderEnv Composite_apply_modifiers [amSelf count nodes] =
      [Val.tuple [.str "call", amSelf count nodes, .str "repeat", .int count],
       Val.tuple [.str "setattr", amSelf count nodes, .str "repetition_strategy",
                  .tuple [.str "FixedRepetitionStrategy", .tuple [.str "repetitions", .int 1]]]] ++
      nodes.map (fun n => Val.tuple [.str "call", plainOp n, .str "apply_modifiers_to_self"]) := by
  obtain ⟨vs', -, -, hf⟩ := block_for_inv builderEnv "node"
    (.mcall (.attr (.name "self") "_circuit_graph") "get_node_iterator" [])
    [.expr (.mcall (.attr (.name "node") "operation") "apply_modifiers_to_self" [])] [.ret (.name "self")] plainNode
    (fun _ _ => True) (fun n => [Val.tuple [.str "call", plainOp n, .str "apply_modifiers_to_self"]])
    nodes (Vars.set [] "self" (amSelf count nodes))
    (by py_simp [amSelf])
    (by intro _ n vs _; py_simp [plainNode, plainOp])
    trivial
  py_simp [Composite_apply_modifiers]
  rw [hf]
  py_simp [amSelf, ← List.map_eq_flatMap]

/-- the fresh copy handed to `extend` in every round (an opaque token). -/
def origCopy : Val := .obj "CircuitCompositeOperation" 10 []

/-- **`repeat(times)`**: one pristine copy, then `times - 1` times "extend self with a copy of the pristine copy". -/
theorem repeat_matches_source (times : Nat) :
    callEffects builderEnv Composite_repeat
        [.obj "CircuitCompositeOperation" 1 [("copy()", .obj "CircuitCompositeOperation" 9 [("copy()", origCopy)])], .int times] =
      List.replicate (times - 1)
        (Val.tuple [.str "call", .obj "CircuitCompositeOperation" 1 [("copy()", .obj "CircuitCompositeOperation" 9 [("copy()", origCopy)])],
                    .str "extend", origCopy]) := by
  let selfV : Val := .obj "CircuitCompositeOperation" 1 [("copy()", .obj "CircuitCompositeOperation" 9 [("copy()", origCopy)])]
  obtain ⟨vs', -, -, hf⟩ := block_for_inv builderEnv "i" (.call "range" [.bin .sub (.name "times") (.int 1)])
    [.expr (.mcall (.name "self") "extend" [.mcall (.name "original_self") "copy" []])] [.ret (.name "self")]
    (fun (i : Nat) => Val.int (0 + i))
    (fun _ vs => vs.get "self" = selfV ∧ vs.get "original_self" = .obj "CircuitCompositeOperation" 9 [("copy()", origCopy)])
    (fun _ => [Val.tuple [.str "call", selfV, .str "extend", origCopy]])
    (List.range (times - 1))
    (((Vars.set [] "self" selfV).set "times" (.int times)).set "original_self"
      (.obj "CircuitCompositeOperation" 9 [("copy()", origCopy)]))
    (by
      have : rangeVals 0 ((times : Int) - 1) = (List.range (times - 1)).map (fun (i : Nat) => Val.int (0 + i)) := by
        by_cases h0 : times = 0
        · subst h0; rfl
        · have : (times : Int) - 1 = 0 + ((times - 1 : Nat) : Int) := by omega
          rw [this, rangeVals_eq]
      py_simp [this])
    (by intro _ i vs ⟨hs, ho⟩; py_simp [hs, ho, selfV, origCopy])
    ⟨by simp [Vars.get_set], by simp [Vars.get_set]⟩
  py_simp [Composite_repeat, selfV]
  rw [hf, flatMap_const, List.length_range]
  py_simp [selfV]

/-- **`apply_flatten_to_self`**: a fresh empty graph; `add_to_graph` of every operation of the (mutating) listing, in order;
    then the fresh graph replaces the old one — `World.flatten`. -/
theorem flatten_matches_source (ops : List Nat) :
    callEffects builderEnv Composite_flatten
        [.obj "CircuitCompositeOperation" 1 [("decomposed_operations()", .list (ops.map plainOp))]] =
      ops.map (fun n => Val.tuple [.str "call", .none, .str "CircuitGraphBranch.add_to_graph",
                 .tuple [.str "graph", .tuple [.str "CircuitGraphBranch"]], .tuple [.str "operation", plainOp n]]) ++
      [Val.tuple [.str "setattr", .obj "CircuitCompositeOperation" 1 [("decomposed_operations()", .list (ops.map plainOp))],
                  .str "_circuit_graph", .tuple [.str "CircuitGraphBranch"]]] := by
  let selfV : Val := .obj "CircuitCompositeOperation" 1 [("decomposed_operations()", .list (ops.map plainOp))]
  obtain ⟨vs', ⟨h1, h2⟩, -, hf⟩ := block_for_inv builderEnv "operation"
    (.call "tqdm" [.mcall (.name "self") "decomposed_operations" [], .str "Flatten Circuit Graph"])
    [.expr (.call "CircuitGraphBranch.add_to_graph" [.tuple [.str "graph", .name "flatten_circuit_graph"],
        .tuple [.str "operation", .name "operation"]])]
    [.setattr (.name "self") "_circuit_graph" (.name "flatten_circuit_graph"), .ret (.name "self")] plainOp
    (fun _ vs => vs.get "self" = selfV ∧ vs.get "flatten_circuit_graph" = .tuple [.str "CircuitGraphBranch"])
    (fun n => [Val.tuple [.str "call", .none, .str "CircuitGraphBranch.add_to_graph",
      .tuple [.str "graph", .tuple [.str "CircuitGraphBranch"]], .tuple [.str "operation", plainOp n]]])
    ops ((Vars.set [] "self" selfV).set "flatten_circuit_graph" (.tuple [.str "CircuitGraphBranch"]))
    (by py_simp [selfV])
    (by intro _ n vs ⟨hs, hg⟩; py_simp [hs, hg, plainOp])
    ⟨by simp [Vars.get_set], by simp [Vars.get_set]⟩
  py_simp [Composite_flatten, selfV]
  rw [hf]
  py_simp [h1, h2, selfV, ← List.map_eq_flatMap]

/-- **`get_corresponding_node`**: the first node whose operation IS the given one (identity), else `None`. -/
theorem get_corresponding_node_matches_source (nodes : List Nat) (o : Nat) :
    callFn builderEnv Graph_get_corresponding_node
        [.obj "Graph" 2 [("get_node_iterator()", .list (nodes.map plainNode))], plainOp o] =
      (match nodes.find? (fun n => n == o) with
       | some n => plainNode n
       | none => .none) := by
  have L := execBlock_for_find builderEnv "node" (.mcall (.name "self") "get_node_iterator" [])
    [.ifs (.cmp .is_ (.name "operation") (.attr (.name "node") "operation")) [.ret (.name "node")] []] [.ret (.none)] plainNode
    (fun vs => vs.get "operation" = plainOp o) (fun n => n == o) plainNode nodes
    ((Vars.set [] "self" (.obj "Graph" 2 [("get_node_iterator()", .list (nodes.map plainNode))])).set "operation" (plainOp o))
    (by py_simp [])
    (by
      intro n vs hv
      -- `is`: identity of the operation objects
      by_cases hn : n = o
      · subst hn; py_simp [hv, plainNode, plainOp]
      · have hn' : ¬ o = n := fun h => hn h.symm
        py_simp [hv, plainNode, plainOp, hn, hn'])
    (by simp [Vars.get_set])
  py_simp [Graph_get_corresponding_node]
  cases hf : nodes.find? (fun n => n == o) with
  | none => rw [hf] at L; obtain ⟨vs', -, hx⟩ := L; rw [hx]; py_simp []
  | some n => rw [hf] at L; rw [L]; rfl

def cpCopy (n : Nat) : Val := .obj "Operation" (5000 + n) []
def cpOp (n : Nat) : Val := .obj "Operation" n [("copy()", cpCopy n)]
def cpNode (n : Nat) : Val := .obj "Node" (1000 + n) [("operation", cpOp n)]
def cpLookup : Val := .obj "dict" 8 []
def cpSelf (nodes : List Nat) : Val :=
  .obj "CircuitCompositeOperation" 1
    [("relation", .obj "Link" 5 [("copy()", .obj "Link" 6 [])]), ("repetition_strategy", .obj "Rep" 7 []),
     ("_circuit_graph", .obj "Graph" 2 [("get_node_iterator()", .list (nodes.map cpNode))])]
/-- the new composite: the copied relation link, the SAME repetition strategy. -/
def cpResult : Val :=
  .tuple [.str "CircuitCompositeOperation", .tuple [.str "relation", .obj "Link" 6 []],
          .tuple [.str "repetition_strategy", .obj "Rep" 7 []]]

/-- **`CircuitCompositeOperation.copy`**: new composite (link copied through the lookup, count kept); then for every node in
    listing order: copy the operation through the SAME lookup, record `lookup[operation] = copy`, `add` the copy — `World.copyObj`. -/
theorem composite_copy_matches_source (nodes : List Nat) :
    callEffects builderEnv Composite_copy [cpSelf nodes, cpLookup] =
      nodes.flatMap (fun n => [Val.tuple [.str "setitem", cpLookup, cpOp n, cpCopy n],
                               Val.tuple [.str "call", cpResult, .str "add", cpCopy n]]) ∧
    callFn builderEnv Composite_copy [cpSelf nodes, cpLookup] = cpResult := by
  obtain ⟨vs', ⟨_, _, hr⟩, hx, hf⟩ := block_for_inv builderEnv "node"
    (.mcall (.attr (.name "self") "_circuit_graph") "get_node_iterator" [])
    [.assign "operation_copy" (.mcall (.attr (.name "node") "operation") "copy" [.name "relation_transfer_lookup"]),
     .setitem (.name "relation_transfer_lookup") (.attr (.name "node") "operation") (.name "operation_copy"),
     .expr (.mcall (.name "result") "add" [.name "operation_copy"])] [.ret (.name "result")] cpNode
    (fun _ vs => vs.get "self" = cpSelf nodes ∧ vs.get "relation_transfer_lookup" = cpLookup ∧ vs.get "result" = cpResult)
    (fun n => [Val.tuple [.str "setitem", cpLookup, cpOp n, cpCopy n], Val.tuple [.str "call", cpResult, .str "add", cpCopy n]])
    nodes (((Vars.set [] "self" (cpSelf nodes)).set "relation_transfer_lookup" cpLookup).set "result" cpResult)
    (by py_simp [cpSelf])
    (by intro _ n vs ⟨hs, hl, hr⟩; py_simp [hs, hl, hr, cpNode, cpOp, cpCopy, cpLookup, cpResult])
    ⟨by simp [Vars.get_set], by simp [Vars.get_set], by simp [Vars.get_set]⟩
  -- the statements before the loop read the fields of `self`: the encodings are unfolded there, so here too
  simp only [cpSelf, cpLookup, cpResult] at hx hf hr
  constructor
  · py_simp [Composite_copy, cpSelf, cpLookup, cpResult]
    rw [hf]
    py_simp []
  · py_simp [Composite_copy, cpSelf, cpLookup, cpResult]
    rw [hx]
    py_simp [hr]

end Qco.BuilderSrc
