import QcoVerif.Lemmas.PyBridge
/-
  Source tie of `GateSequenceGenerator.get_mutually_allowed` (connectivity/mapping/gate_sequence_generator.py; C16): the nested
  loops with early return compute the model's `mutuallyAllowed` (ordered pairs).  Core Lean only.
-/
namespace Qco.ConnSrc
open Qco Qco.Py Qco.Gen.PySrc

/-- a loop that returns at the first element without `p` against `all p`. -/
theorem all_eq_find_not {α} (p : α → Bool) (l : List α) : l.all p = (l.find? (fun x => !p x)).isNone := by
  induction l with
  | nil => rfl
  | cons a as ih => cases h : p a <;> simp [h, ih]

/-- `construct_operation_constraints(t, …)` gives an object whose `get_allowed_operations()` answers `allowed t` (a pseudo-field):
    what the constraint of target `t` allows is a parameter of the theorem.  Operations are compared by value: identifiers. -/
def connEnv (allowed : Nat → List Nat) : Env :=
  { func := fun f args => match f, args with
      | "GateSequenceGenerator.construct_operation_constraints", [.int t, _] =>
          some (.obj "OperationConstraint" t.toNat [("get_allowed_operations()", nats (allowed t.toNat))])
      | _, _ => Option.none
    method := fun recv m _ => match recv with | .obj _ _ fs => lookupField fs (m ++ "()") | _ => Option.none }

@[py_eval] theorem connEnv_constraints (allowed : Nat → List Nat) (t : Nat) (conn : Val) :
    (connEnv allowed).func "GateSequenceGenerator.construct_operation_constraints" [.int t, conn] =
      some (.obj "OperationConstraint" t [("get_allowed_operations()", nats (allowed t))]) := rfl

@[py_eval] theorem connEnv_method (allowed : Nat → List Nat) (c : String) (i : Nat) (fs : List (String × Val)) (m : String) (args : List Val) :
    (connEnv allowed).method (.obj c i fs) m args = lookupField fs (m ++ "()") := rfl

@[py_eval] theorem builtin_constraints (args : List Val) :
    builtin "GateSequenceGenerator.construct_operation_constraints" args = none := builtin_none _ _ (by simp [builtinNames])

/-- the bodies of the two loops (`abbrev`s: see `BuilderSrc.decBody`). -/
abbrev innerBody : List Stmt :=
  [.ifs (.cmp .notIn (.name "simultaneous_operation") (.name "allowed_operations")) [.ret (.bool false)] []]

abbrev outerBody : List Stmt :=
  [.assign "operation_constraint" (.call "GateSequenceGenerator.construct_operation_constraints" [.name "target_operation", .name "connectivity"]),
   .assign "allowed_operations" (.mcall (.name "operation_constraint") "get_allowed_operations" [.name "connectivity"]),
   .for_ "simultaneous_operation" (.name "operations") innerBody]

/-- what both loops keep. -/
def LoopVars (ops : List Nat) (vs : Vars) : Prop :=
  vs.get "operations" = nats ops ∧ vs.get "connectivity" = .obj "Layer" 0 []

/-- one round of the outer loop: the inner loop returns `False` at the first operation the target does not allow. -/
theorem target_step (allowed : Nat → List Nat) (ops : List Nat) (t : Nat) (vs : Vars) (hv : LoopVars ops vs) :
    if !ops.all (fun s => decide (s ∈ allowed t)) then
      execBlock (connEnv allowed) (vs.set "target_operation" (.int t)) outerBody = .ret (.bool false)
    else (execBlock (connEnv allowed) (vs.set "target_operation" (.int t)) outerBody).contWith (LoopVars ops) := by
  obtain ⟨h1, h2⟩ := hv
  -- the two statements before the inner loop bind `allowed_operations`
  obtain ⟨vs2, ⟨k1, k2, k3⟩, hx2, -⟩ := block_append_cont (connEnv allowed) (vs.set "target_operation" (.int t)) (outerBody.take 2)
    [.for_ "simultaneous_operation" (.name "operations") innerBody]
    (fun vs' => vs'.get "operations" = nats ops ∧ vs'.get "connectivity" = .obj "Layer" 0 [] ∧
      vs'.get "allowed_operations" = nats (allowed t))
    (by py_simp [h1, h2])
  have L := execBlock_for_find (connEnv allowed) "simultaneous_operation" (.name "operations") innerBody []
    (fun (n : Nat) => Val.int n)
    (fun vs' => vs'.get "operations" = nats ops ∧ vs'.get "connectivity" = .obj "Layer" 0 [] ∧
      vs'.get "allowed_operations" = nats (allowed t))
    (fun s => !decide (s ∈ allowed t)) (fun _ => .bool false) ops vs2
    (by py_simp [k1])
    (by
      intro s vs' ⟨g1, g2, g3⟩
      by_cases hs : s ∈ allowed t <;> py_simp [g1, g2, g3, hs])
    ⟨k1, k2, k3⟩
  show if _ then execBlock _ _ (outerBody.take 2 ++ _) = _ else (execBlock _ _ (outerBody.take 2 ++ _)).contWith _
  rw [hx2]
  cases hf : ops.find? (fun s => !decide (s ∈ allowed t)) with
  | none =>
    rw [hf] at L
    obtain ⟨vs3, ⟨g1, g2, -⟩, hx3⟩ := L
    simp only [all_eq_find_not, hf, Option.isNone_none, Bool.not_true, Bool.false_eq_true, if_false, hx3, execBlock_nil,
      Outcome.contWith_cont]
    exact ⟨g1, g2⟩
  | some s =>
    rw [hf] at L
    simp only [all_eq_find_not, hf, Option.isNone_some, Bool.not_false, if_true, L]

/-- **`get_mutually_allowed`**: every operation of the step is among the operations allowed by EVERY operation of the step
    (ordered pairs, the operation itself included) — the model's `mutuallyAllowed`. -/
theorem mutually_allowed_matches_source (allowed : Nat → List Nat) (ops : List Nat) (conn : Val) (hc : conn = .obj "Layer" 0 []) :
    callFn (connEnv allowed) Gen_get_mutually_allowed [nats ops, conn] =
      .bool (ops.all (fun t => ops.all (fun s => decide (s ∈ allowed t)))) := by
  subst hc
  have L := execBlock_for_find (connEnv allowed) "target_operation" (.name "operations") outerBody [.ret (.bool true)]
    (fun (n : Nat) => Val.int n) (LoopVars ops) (fun t => !ops.all (fun s => decide (s ∈ allowed t))) (fun _ => .bool false) ops
    ((Vars.set [] "operations" (nats ops)).set "connectivity" (.obj "Layer" 0 []))
    (by py_simp [])
    (fun t vs hv => target_step allowed ops t vs hv)
    ⟨by simp [Vars.get_set], by simp [Vars.get_set]⟩
  py_simp [Gen_get_mutually_allowed]
  cases hf : ops.find? (fun t => !ops.all (fun s => decide (s ∈ allowed t))) with
  | none =>
    rw [hf] at L
    obtain ⟨vs', -, hx⟩ := L
    simp only [nats] at hx
    rw [hx, all_eq_find_not, hf]
    py_simp []
  | some t =>
    rw [hf] at L
    simp only [nats] at L
    rw [L, all_eq_find_not, hf]
    rfl

end Qco.ConnSrc
