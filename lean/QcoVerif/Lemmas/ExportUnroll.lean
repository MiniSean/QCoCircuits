import QcoVerif.Lemmas.TreeDepth
import QcoVerif.Lemmas.Export
/-
  Bridge between the exporter's specification (C08: `World.expanded` / `expandedTop`, the count-expanded NODE listing in
  listing order, a count of 0 exports nothing) and the unrolling theorems (C06: `World.expand`, count-expanded leaf
  SIGNATURES in insertion order, a count of 0 behaves like 1), for tree-shaped heaps (`TreeBelow`).  By signature the
  exporter's listing is `expandWith repCount`, which is `World.expand` when every count is ≥ 1 (`CountsPos`; `RepsOk`:
  heaps built through the API satisfy it); after `applyModifiers` the operation listing is `expand` of the heap before.
  So the exports before and after unrolling translate the same expansion.  Core Lean only.
-/
namespace Qco.ExportUnroll

open Qco

/-- the export key (`exportKey`) as a function of the signature. -/
def sigKey (s : Sig) : Cls × List Int × List (Option Int) × Chan := (s.cls, s.qs, s.ints, s.chan)

theorem exportKey_eq_sigKey (o : Op) : exportKey o = sigKey o.sig := rfl

/-- an operation with the given signature (default link, registry, count, graph). -/
def sigOp (s : Sig) : Op := { cls := s.cls, qs := s.qs, chan := s.chan, dur := s.dur, tag := s.tag, ints := s.ints }

theorem sigOp_sig (s : Sig) : (sigOp s).sig = s := rfl

/-- the instruction a signature is exported as (`none` = class outside the table). -/
def sigInstr (s : Sig) : Option Instr := translate (sigOp s)

/-- the instruction an operation is exported as only depends on its signature. -/
theorem translate_eq_sigInstr (o : Op) : translate o = sigInstr o.sig := translate_of_key _ _ rfl

theorem sigInstr_of_key (a b : Sig) (h : sigKey a = sigKey b) : sigInstr a = sigInstr b :=
  translate_of_key _ _ h

theorem filterMap_translate_sig (w : World) (l : List Nat) :
    l.filterMap (fun n => translate (w.op n)) = (l.map (fun n => (w.op n).sig)).filterMap sigInstr := by
  rw [List.filterMap_map]
  exact filterMap_congr' (fun n _ => translate_eq_sigInstr (w.op n))

/-- every composite at or below `o` (down to depth `f`) has a repetition count ≥ 1 under the current registry. -/
def CountsPos (w : World) : Nat → Nat → Prop
  | 0, _ => True
  | f+1, o => (w.op o).isComp = true → 1 ≤ w.repCount (w.op o).rep ∧ ∀ n ∈ w.kids o, CountsPos w f n

theorem countsPos_of_all (w : World) (h : ∀ j, (w.op j).isComp = true → 1 ≤ w.repCount (w.op j).rep) :
    ∀ (f o : Nat), CountsPos w f o := by
  intro f
  induction f with
  | zero => intro o; trivial
  | succ f ih => intro o hc; exact ⟨h o hc, fun n _ => ih n⟩

/-- with all counts ≥ 1, expanding with the counts themselves is expanding with `max 1 count`. -/
theorem expandWith_of_countsPos (w : World) : ∀ (f o : Nat), CountsPos w f o →
    w.expandWith w.repCount f o = w.expand f o := by
  intro f
  induction f with
  | zero => intro o _; rfl
  | succ f ih =>
    intro o h
    by_cases hc : (w.op o).isComp = true
    · obtain ⟨h1, h2⟩ := h hc
      rw [expandWith_comp w _ f o hc, expand_comp w f o hc,
        show max 1 (w.repCount (w.op o).rep) = w.repCount (w.op o).rep by omega]
      exact congrArg _ (flatMap_congr' (fun n hn => ih n (h2 n hn)))
    · have hl : (w.op o).isComp = false := by simpa using hc
      rw [expandWith_leaf w _ f o hl, expand_leaf w f o hl]

/-- **nodes vs signatures, listing order vs insertion order.**  For a tree `c` of depth ≤ `f` and walk fuel `g ≥ f`, the
    exporter's count-expanded node listing (`World.expanded`, times the own count), read by signature, is a permutation of
    the expansion with the counts themselves (`expandWith repCount`: a count of 0 contributes nothing). -/
theorem expanded_sig_perm (w : World) : ∀ (f c g : Nat), f ≤ g → TreeBelow w f c → (w.op c).isComp = true →
    ((repeatList (w.repCount (w.op c).rep) (w.expanded g c)).map (fun n => (w.op n).sig)).Perm
      (w.expandWith w.repCount f c) := by
  intro f
  induction f with
  | zero => intro c g _ h _; exact h.elim
  | succ f ih =>
    intro c g hg ht hcomp
    cases g with
    | zero => omega
    | succ g =>
      rw [expandWith_comp w _ f c hcomp, map_repeatList]
      apply Perm.repeatList
      unfold World.expanded
      rw [List.map_flatMap]
      have hp : (listing (w.op c).graph).Perm (w.kids c) := listing_perm _
      refine (List.Perm.flatMap_right _ hp.symm).symm.trans ?_
      apply perm_flatMap_congr
      intro n hn
      have htn := ht.kid hcomp hn
      by_cases hcn : (w.op n).isComp = true
      · rw [if_pos hcn]
        exact ih n g (by omega) htn hcn
      · have hl : (w.op n).isComp = false := by simpa using hcn
        rw [if_neg hcn]
        cases f with
        | zero => exact htn.elim
        | succ f =>
          rw [expandWith_leaf w _ f n hl]
          exact List.Perm.refl _

/-- the same at the fuel the exporter uses (`depthFuel`), for ANY depth bound `f` of the tree. -/
theorem expandedTop_sig_perm (w : World) (f c : Nat) (h : TreeBelow w f c) (hc : (w.op c).isComp = true) :
    ((w.expandedTop c).map (fun n => (w.op n).sig)).Perm (w.expandWith w.repCount f c) := by
  obtain ⟨f0, h1, h2, t0⟩ := tree_depth_le_size w f c h
  rw [(t0.mono_le_all h1).2.2.1]
  exact expanded_sig_perm w f0 c w.depthFuel (by unfold World.depthFuel; omega) t0 hc

/-- **the exporter's listing before unrolling is the C06 expansion** when every count is ≥ 1. -/
theorem expandedTop_expand (w : World) (f c : Nat) (h : TreeBelow w f c) (hc : (w.op c).isComp = true)
    (hp : CountsPos w f c) : ((w.expandedTop c).map (fun n => (w.op n).sig)).Perm (w.expand f c) := by
  rw [← expandWith_of_countsPos w f c hp]
  exact expandedTop_sig_perm w f c h hc

/-! ### `AllOnes` (C06) gives `allOne` (C08) -/

theorem repCount_of_allOnes (w : World) (f c : Nat) (h : TreeBelow w f c) (ha : AllOnes w f c)
    (hc : (w.op c).isComp = true) : w.repCount (w.op c).rep = 1 := by
  cases f with
  | zero => exact h.elim
  | succ f => rw [(ha hc).1]; rfl

theorem allOne_of_allOnes (w : World) : ∀ (f c g : Nat), TreeBelow w f c → AllOnes w f c →
    (w.op c).isComp = true → w.allOne g c = true := by
  intro f
  induction f with
  | zero => intro c g h _ _; exact h.elim
  | succ f ih =>
    intro c g ht ha hcomp
    cases g with
    | zero => rfl
    | succ g =>
      simp only [World.allOne, List.all_eq_true, Bool.or_eq_true, Bool.not_eq_eq_eq_not, Bool.not_true,
        Bool.and_eq_true, beq_iff_eq]
      intro n hn
      have hnk : n ∈ w.kids c := (listing_perm _).mem_iff.mp hn
      have htn := ht.kid hcomp hnk
      have han := (ha hcomp).2 n hnk
      by_cases hcn : (w.op n).isComp = true
      · exact Or.inr ⟨repCount_of_allOnes w f n htn han hcn, ih n g htn han hcn⟩
      · exact Or.inl (by simpa using hcn)

/-! ### the three hypotheses of `C08.export_multiset_unroll_partial` -/

/-- after `applyModifiers` (the driver's call) on a tree: the own count is 1, every count below is 1 (`allOne`, at the
    fuel of the NEW heap), and the operation listing is — by signature — a permutation of the C06 expansion of the heap
    BEFORE (every leaf × the product of the enclosing `max 1 count`). -/
theorem unroll_export_hyps (w : World) (f c : Nat) (h : TreeBelow w f c) (hc : (w.op c).isComp = true) :
    (w.applyModifiers w.depthFuel c).repCount ((w.applyModifiers w.depthFuel c).op c).rep = 1 ∧
    (w.applyModifiers w.depthFuel c).allOne (w.applyModifiers w.depthFuel c).depthFuel c = true ∧
    ((((w.applyModifiers w.depthFuel c).operations c).2).map
      (fun n => ((w.applyModifiers w.depthFuel c).op n).sig)).Perm (w.expand f c) := by
  have s := applyModifiers_tree_driver w f c h
  have hc' : ((w.applyModifiers w.depthFuel c).op c).isComp = true := by rw [s.kind]; exact hc
  exact ⟨repCount_of_allOnes _ f c s.tree s.ones hc', allOne_of_allOnes _ f c _ s.tree s.ones hc', s.listing hc⟩

/-- **The export after unrolling, for ANY counts (0 included).**  On a tree-shaped heap below the sub-circuit `c`, the
    export after `apply_modifiers` is — as a multiset — the translation of C06's expansion of the heap before: every leaf
    × the product of the enclosing `max 1 count`. -/
theorem export_after_unroll_is_expansion (w : World) (f c : Nat) (h : TreeBelow w f c) (hc : (w.op c).isComp = true) :
    ((w.applyModifiers w.depthFuel c).stimExport c).Perm ((w.expand f c).filterMap sigInstr) := by
  obtain ⟨htop, hone, hp⟩ := unroll_export_hyps w f c h hc
  rw [stimExport_of_allOne _ c htop hone, filterMap_translate_sig]
  exact hp.filterMap _

/-- **The export before unrolling**, when every count at or below `c` is ≥ 1: the translation of the same expansion. -/
theorem export_before_unroll_is_expansion (w : World) (f c : Nat) (h : TreeBelow w f c)
    (hc : (w.op c).isComp = true) (hpos : CountsPos w f c) :
    (w.stimExport c).Perm ((w.expand f c).filterMap sigInstr) := by
  rw [stimExport_eq_image, filterMap_translate_sig]
  exact (expandedTop_expand w f c h hc hpos).filterMap _

/-- number of measurement results the program records on qubit `q`. -/
def measCountOn (q : Int) (l : List Instr) : Nat :=
  ((l.filter (fun i => i.name == "M")).map (fun i => i.targets.count (.q q))).sum

theorem measCountOn_perm (q : Int) {a b : List Instr} (h : a.Perm b) : measCountOn q a = measCountOn q b := by
  unfold measCountOn
  exact ((h.filter _).map _).sum_nat

/-! ### the builder only creates sub-circuits with repetition strategies that exist already

A cheap GLOBAL invariant (no tree hypothesis) that gives `CountsPos` for heaps built through the API: if every composite of
the heap has a repetition strategy satisfying `P`, so has every composite after `newOp` (of an operation satisfying it),
`add`, `copyObj`, `addSub`, `newCircuit`. -/

def RepsOk (P : Rep → Prop) (w : World) : Prop := ∀ j, (w.op j).isComp = true → P (w.op j).rep

theorem repsOk_empty (P : Rep → Prop) : RepsOk P ({} : World) := by
  intro j hj
  have : ({} : World).op j = default := by simp [World.op]
  rw [this] at hj
  cases hj

/-- `RepsOk` only reads kind and repetition strategy of the objects. -/
theorem repsOk_of_same {P : Rep → Prop} {w w' : World}
    (h : ∀ j, (w'.op j).cls = (w.op j).cls ∧ (w'.op j).rep = (w.op j).rep) (hw : RepsOk P w) : RepsOk P w' := by
  intro j hj
  unfold Op.isComp at hj
  rw [(h j).1] at hj
  rw [(h j).2]
  exact hw j hj

theorem repsOk_of_ops {P : Rep → Prop} {w w' : World} (h : w'.ops = w.ops) (hw : RepsOk P w) : RepsOk P w' :=
  repsOk_of_same (fun j => by rw [World.op_of_ops_eq h j]; exact ⟨rfl, rfl⟩) hw

theorem repsOk_newOp {P : Rep → Prop} (w : World) (o : Op) (hw : RepsOk P w) (ho : o.isComp = true → P o.rep) :
    RepsOk P (w.newOp o).1 := by
  intro j hj
  by_cases hjs : j = w.ops.size
  · subst hjs
    rw [w.op_newOp_new o] at hj ⊢
    exact ho hj
  · rw [w.op_newOp_of_ne o hjs] at hj ⊢
    exact hw j hj

theorem repsOk_newCircuit {P : Rep → Prop} (w : World) (r : Rep) (hw : RepsOk P w) (hr : P r) :
    RepsOk P (w.newCircuit r).1 :=
  repsOk_newOp w _ hw (fun _ => hr)

theorem repsOk_add {P : Rep → Prop} (w : World) (c o : Nat) (hw : RepsOk P w) : RepsOk P (w.add c o) := by
  refine repsOk_of_same (fun j => ?_) hw
  have hs := (addToGraph_linksOnly w (w.op c).graph o).2
  rw [add_eq_setGraph]
  exact ⟨(World.cls_setGraph _ c _ j).trans (hs.cls j), (World.rep_setGraph _ c _ j).trans (hs.rep j)⟩

theorem repsOk_copyObj {P : Rep → Prop} : ∀ (f : Nat) (w : World) (o : Nat) (lk : Lookup), RepsOk P w →
    RepsOk P (w.copyObj f o lk).1 := by
  intro f
  induction f with
  | zero => intro w o lk hw; exact hw
  | succ f ih =>
    intro w o lk hw
    by_cases hc : (w.op o).isComp = true
    · obtain ⟨w1, l, ho1, _, hcp⟩ := copyObj_comp w f o lk hc
      rw [hcp]
      refine foldl_inv (fun acc : World × Lookup => RepsOk P acc.1) _ ?_ _ _
        (repsOk_newOp _ _ (repsOk_of_ops ho1 hw) (fun _ => hw o hc))
      intro acc n hacc
      obtain ⟨w2, hstep, ho2, _, _⟩ := cpStep_fst f w.ops.size acc n
      rw [hstep]
      exact repsOk_add _ _ _ (repsOk_of_ops ho2 (ih acc.1 n acc.2 hacc))
    · have hl : (w.op o).isComp = false := by simpa using hc
      obtain ⟨w1, l, r, ho1, _, hcl⟩ := copyLeaf_alloc w o lk
      rw [copyObj_leaf w f o lk hl, hcl]
      refine repsOk_newOp _ _ (repsOk_of_ops ho1 hw) (fun h => ?_)
      rw [show ({ (w.op o).copyFields with link := l, reg := r } : Op).isComp = (w.op o).isComp from
        copyFields_isComp (w.op o), hl] at h
      cases h

theorem repsOk_addSub {P : Rep → Prop} (w : World) (c sub : Nat) (hw : RepsOk P w) : RepsOk P (w.addSub c sub).1 := by
  rw [addSub_eq]
  exact repsOk_add _ _ _ (repsOk_copyObj _ w sub _ hw)

def FixedPos (r : Rep) : Prop := ∃ n, r = .fixed (n + 1)

theorem countsPos_of_repsOk (w : World) (h : RepsOk FixedPos w) (f o : Nat) : CountsPos w f o := by
  apply countsPos_of_all
  intro j hj
  obtain ⟨n, hn⟩ := h j hj
  rw [hn]
  show 1 ≤ n + 1
  omega

/-! ### the worked example `exG` (Lemmas/TreeBuild.lean): every count is fixed and positive -/

theorem exG_repsOk : RepsOk FixedPos exG.1 := by
  have hA : RepsOk FixedPos exA.1 := repsOk_newCircuit _ _ (repsOk_empty _) ⟨2, rfl⟩
  have hB : RepsOk FixedPos exB := repsOk_add _ _ _ (repsOk_newOp _ exX hA (fun h => by cases h))
  have hC : RepsOk FixedPos exC.1 := repsOk_newCircuit _ _ hB ⟨1, rfl⟩
  have hD : RepsOk FixedPos exD := repsOk_add _ _ _ (repsOk_newOp _ exM hC (fun h => by cases h))
  have hE : RepsOk FixedPos exE.1 := repsOk_addSub _ _ _ hD
  have hF : RepsOk FixedPos exF.1 := repsOk_newCircuit _ _ hE ⟨0, rfl⟩
  exact repsOk_addSub _ _ _ hF

theorem exG_countsPos : CountsPos exG.1 4 exF.2 := countsPos_of_repsOk _ exG_repsOk 4 exF.2

/-! ### deciding `TreeBelow` on heap literals; the count-0 counterexample heap -/

instance decCopyStable (o : Op) : Decidable o.CopyStable := by unfold Op.CopyStable; exact inferInstance

/-- `TreeBelow` is decidable (bounded quantifiers over `kids` / `below`), so it can be evaluated on a heap literal. -/
def decTreeBelow (w : World) : ∀ (f o : Nat), Decidable (TreeBelow w f o)
  | 0, _ => isFalse (fun h => h)
  | f+1, o =>
    have : ∀ n, Decidable (TreeBelow w f n) := decTreeBelow w f
    show Decidable (o < w.ops.size ∧
      (((w.op o).isComp = true ∧ (w.kids o).Nodup ∧
        (∀ n ∈ w.kids o, TreeBelow w f n ∧ o ∉ w.below f n) ∧
        (∀ a ∈ w.kids o, ∀ b ∈ w.kids o, a ≠ b → ∀ j, j ∈ w.below f a → j ∉ w.below f b))
      ∨ ((w.op o).isComp = false ∧ (w.op o).CopyStable))) from inferInstance

instance instDecTreeBelow (w : World) (f o : Nat) : Decidable (TreeBelow w f o) := decTreeBelow w f o

/-- `top{ blk(×0){ M q0 } }`: a sub-circuit with count 0 holding one measurement. -/
def wZero : World :=
  { ops := #[
      { cls := .comp, graph := [⟨1, none, [0]⟩] },
      { cls := .comp, rep := .fixed 0, graph := [⟨2, none, [0]⟩] },
      { cls := .measure, qs := [0], dur := .glob .ro }] }

end Qco.ExportUnroll
