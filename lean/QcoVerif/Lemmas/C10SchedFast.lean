import QcoVerif.Lemmas.C10ParamFast
/-
  C10, library clause: the checks of the recorded heaps arranged for evaluation by the kernel.

  `scheduleOk` reads the heap and the table through `Array.getD`, which the kernel evaluates on a literal of `n`
  elements in about `n` steps — the check of a table costs about `n²` such look-ups.  `scheduleOkF` is `scheduleOk`
  with the accessors as arguments (`scheduleOkF_eq`); `Case.okT` gives it the accessors `arrGet` (a trie built from
  the array by the kernel, look-ups in `log n` steps) and is `Case.ok` (`Case.okT_eq`).  `caseLayeredT` is the like
  arrangement of `caseLayered` and implies it (`caseLayered_of_caseLayeredT`).
-/
namespace Qco.C10

open Qco Qco.C10Param

def ivLoF (row : Nat → Row) (m : Nat) : LinForm := (row m).start.sub (row m).lead
def ivHiF (row : Nat → Row) (m : Nat) : LinForm := (ivLoF row m).add (row m).span
def endFF (row : Nat → Row) (m : Nat) : LinForm := (row m).start.add (row m).span

def checkSpanF (op : Nat → Op) (row : Nat → Row) (n : Nat) (w : World) (R : Regime) (o : Nat) : Bool :=
  if (op o).isComp then
    if (op o).graph.isEmpty then decide ((row o).lead = .zero) && decide ((row o).span = .zero)
    else
      (nodesOf (op o).graph).all (fun m => decide (m < n)) &&
      (nodesOf (op o).graph).contains (row o).lo && (nodesOf (op o).graph).contains (row o).hi &&
      (headsOf (op o).graph).contains (row o).hd &&
      (nodesOf (op o).graph).all (fun m => ((ivLoF row m).sub (ivLoF row (row o).lo)).isNonneg) &&
      (nodesOf (op o).graph).all (fun m => ((ivHiF row (row o).hi).sub (ivHiF row m)).isNonneg) &&
      (headsOf (op o).graph).all (fun h => ((row h).start.sub (row (row o).hd).start).isNonneg) &&
      decide ((row o).lead = (row (row o).hd).start.sub (ivLoF row (row o).lo)) &&
      decide ((row o).span = (ivHiF row (row o).hi).sub (ivLoF row (row o).lo))
  else decide ((row o).lead = .zero) && decide ((row o).span = durForm R w (op o).dur)

def checkStartF (op : Nat → Op) (lnk : Nat → Link) (row : Nat → Row) (n : Nat) (o : Nat) : Bool :=
  if (lnk (op o).link).multi then (lnk (op o).link).refs.isEmpty && decide ((row o).start = .zero)
  else
    match (lnk (op o).link).refs.head? with
    | none => decide ((row o).start = .zero)
    | some r => decide (r < n) &&
        decide ((row o).start = linkStartForm (lnk (op o).link).rel (row r).start (endFF row r) (row o).span)

def checkTableF (op : Nat → Op) (lnk : Nat → Link) (row : Nat → Row) (n : Nat) (w : World) (R : Regime) : Bool :=
  (List.range n).all (fun o => checkSpanF op row n w R o && checkStartF op lnk row n o)

def disjointRowsF (row : Nat → Row) (a b : Nat) : Bool :=
  ((row b).start.sub (endFF row a)).isNonneg || ((row a).start.sub (endFF row b)).isNonneg

def mustBeDisjointF (op : Nat → Op) (row : Nat → Row) (a b : Nat) : Bool :=
  sharesChannel (op a) (op b) &&
  ((op a).cls == .barrier || (op b).cls == .barrier ||
   (!(row a).span.isZero && !(row b).span.isZero))

def checkPairsF (op : Nat → Op) (row : Nat → Row) (n : Nat) (xs : List Nat) : Bool :=
  xs.all (fun a => decide (a < n) &&
    xs.all (fun b => a == b || !mustBeDisjointF op row a b || disjointRowsF row a b))

def scheduleOkF (op : Nat → Op) (lnk : Nat → Link) (row : Nat → Row) (n : Nat) (w : World) (R : Regime) (c : Nat) :
    Bool :=
  checkTableF op lnk row n w R && checkPairsF op row n (contentsF op (n + 2) c)

theorem scheduleOkF_eq (w : World) (R : Regime) (T : Table) (c : Nat) :
    scheduleOkF w.op w.lnk T.row w.ops.size w R c = scheduleOk w R T c := by
  unfold scheduleOkF scheduleOk
  rw [contentsF_eq]
  rfl

theorem op_eq_arrGet (w : World) : w.op = arrGet default w.ops := (arrGet_eq default w.ops).symm
theorem lnk_eq_arrGet (w : World) : w.lnk = arrGet default w.links := (arrGet_eq default w.links).symm
theorem row_eq_arrGet (T : Table) : T.row = arrGet default T := (arrGet_eq default T).symm

def Case.okT (x : Case) : Bool :=
  scheduleOkF (arrGet default x.w.ops) (arrGet default x.w.links) (arrGet default x.tA) x.w.ops.size x.w regimeA x.c &&
  scheduleOkF (arrGet default x.w.ops) (arrGet default x.w.links) (arrGet default x.tB) x.w.ops.size x.w regimeB x.c

theorem Case.okT_eq : Case.okT = Case.ok := by
  funext x
  unfold Case.okT Case.ok
  rw [← op_eq_arrGet, ← lnk_eq_arrGet, ← row_eq_arrGet, ← row_eq_arrGet, scheduleOkF_eq, scheduleOkF_eq]

theorem Case.all_ok {l : List Case} (h : l.all Case.okT = true) : l.all Case.ok = true := Case.okT_eq ▸ h

/-- `caseLayered` through tries, in the form `layeredOkM`. -/
def caseLayeredT (x : Case) : Bool :=
  layeredOkM (arrGet default x.w.ops) (arrGet default x.w.links) x.w regimeA
    (autoCertF (arrGet default x.w.ops) (x.w.ops.size + 2)) x.c &&
  layeredOkM (arrGet default x.w.ops) (arrGet default x.w.links) x.w regimeB
    (autoCertF (arrGet default x.w.ops) (x.w.ops.size + 2)) x.c

theorem caseLayered_of_caseLayeredT {x : Case} (h : caseLayeredT x = true) : caseLayered x = true := by
  unfold caseLayeredT at h
  unfold caseLayered
  rw [← op_eq_arrGet, ← lnk_eq_arrGet, Bool.and_eq_true] at h
  rw [layeredOkL_eq, layeredOkL_eq, Bool.and_eq_true]
  exact ⟨layeredOkM_imp h.1, layeredOkM_imp h.2⟩

theorem all_caseLayered {l : List Case} (h : l.all caseLayeredT = true) : l.all caseLayered = true :=
  List.all_eq_true.mpr fun x hx => caseLayered_of_caseLayeredT (List.all_eq_true.mp h x hx)

end Qco.C10
