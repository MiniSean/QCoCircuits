import QcoVerif.Lemmas.Heap
import QcoVerif.Lemmas.Listing
/-
  `add_to_graph` as a decision followed by a heap update.

  `World.addToGraph` answers three questions (has the operation a relation, which node shares a channel with it, which
  node does its link refer to) and then does one of three things: hang the operation under the root, hang it under its
  reference, or give it a fresh link and hang it under the node sharing a channel.  `addDec` is the choice as a function
  of the three answers, `modW` the heap update it asks for, and `addToGraph_eq` puts `World.addToGraph` in that form;
  what a caller needs to know about `add_to_graph` follows from `addDec_cases` and the equations of `modW`, or from the
  equation of the outcome at hand (`addToGraph_root`, `_child`, `_relink`, `_outside`; `add_root_eq`, … for `add`).
  The decision, the update and their lemmas are named `Commute.…`, like the commutation argument of C03 that is stated
  with them (Lemmas/Commute.lean); the equations for `add` at the end of the file are plain `Qco.…`.  Core Lean only.
-/
namespace Qco

namespace Commute

/-- count a warning / note an undefined reference. -/
def bump (a : Nat) (b : Bool) (y : World) : World := { y with warnings := y.warnings + a, undef := b || y.undef }

/-- the `relink` branch of `add_to_graph`: a new link `L` is allocated and given to `o`. -/
def relinkW (a : Nat) (b : Bool) (L : Link) (o : Nat) (y : World) : World :=
  ((bump a b y).newLink L).1.setLink o y.links.size

/-- what `add_to_graph` does to the heap: nothing, or relink. -/
def modW (k : Option (Nat × Bool × Link)) (o : Nat) (y : World) : World :=
  match k with
  | none => y
  | some (a, b, L) => relinkW a b L o y

def relinkDec (a : Nat) (b : Bool) (leaf : Option Nat) : Option (Nat × Bool × Link) × Option Nat :=
  match leaf with
  | none => (some (a, b, {}), none)
  | some lf => (some (a, b, { refs := [lf] }), some lf)

/-- the decision of `add_to_graph` as a function of its three tests (`has_relation`, `get_leaf_at_any`, the reference
    node) and of the graph. -/
def addDec (hr : Bool) (leaf : Option Nat) (ref : Option (Option Nat)) (g : List Entry) :
    Option (Nat × Bool × Link) × Option Nat :=
  if !hr then
    match leaf with
    | none => (none, none)
    | some _ => relinkDec 0 false leaf
  else
    match ref with
    | some (some r) => if inGraph g r then (none, some r) else relinkDec 1 false leaf
    | _ => relinkDec 1 true leaf

theorem addToGraph_eq (y : World) (g : List Entry) (o : Nat) :
    y.addToGraph g o =
      (modW (addDec (y.hasRel o) (y.leafAtAny g (y.chansOf o)) (y.refOf (y.op o).link) g).1 o y,
       attach g (addDec (y.hasRel o) (y.leafAtAny g (y.chansOf o)) (y.refOf (y.op o).link) g).2 o) := by
  unfold World.addToGraph
  simp only
  generalize y.leafAtAny g (y.chansOf o) = leaf
  generalize y.refOf (y.op o).link = ref
  cases y.hasRel o with
  | false => cases leaf <;> rfl
  | true =>
    cases ref with
    | none => cases leaf <;> rfl
    | some r =>
      cases r with
      | none => cases leaf <;> rfl
      | some r =>
        cases hin : inGraph g r with
        | true => simp [addDec, hin, modW]
        | false => cases leaf <;> simp [addDec, hin, modW, relinkDec, relinkW, bump, World.newLink]

theorem add_eq (y : World) (c o : Nat) :
    y.add c o =
      (modW (addDec (y.hasRel o) (y.leafAtAny (y.op c).graph (y.chansOf o)) (y.refOf (y.op o).link)
        (y.op c).graph).1 o y).setGraph c
      (attach (y.op c).graph (addDec (y.hasRel o) (y.leafAtAny (y.op c).graph (y.chansOf o))
        (y.refOf (y.op o).link) (y.op c).graph).2 o) := by
  unfold World.add
  rw [addToGraph_eq]

theorem addToGraph_snd (y : World) (g : List Entry) (o : Nat) : ∃ p, (y.addToGraph g o).2 = attach g p o :=
  ⟨_, by rw [addToGraph_eq]⟩

theorem addToGraph_root (y : World) (g : List Entry) (o : Nat) (hr : y.hasRel o = false)
    (hl : y.leafAtAny g (y.chansOf o) = none) : y.addToGraph g o = (y, attach g none o) := by
  rw [addToGraph_eq, hr, hl]
  rfl

theorem addToGraph_child (y : World) (g : List Entry) (o r : Nat) (hr : y.hasRel o = true)
    (href : y.refOf (y.op o).link = some (some r)) (hin : inGraph g r = true) :
    y.addToGraph g o = (y, attach g (some r) o) := by
  rw [addToGraph_eq, hr, href]
  simp [addDec, hin, modW]

/-- no relation, `lf` the last node on a shared channel: linked FOLLOWED_BY `lf` by a fresh link, hung under `lf`. -/
theorem addToGraph_relink (y : World) (g : List Entry) (o lf : Nat) (hr : y.hasRel o = false)
    (hl : y.leafAtAny g (y.chansOf o) = some lf) :
    y.addToGraph g o = ((y.newLink { refs := [lf] }).1.setLink o y.links.size, attach g (some lf) o) := by
  rw [addToGraph_eq, hr, hl]
  rfl

/-- a relation to an object that is not a node of the graph, no node on a shared channel: a warning, the relation is
    replaced by a fresh reference-less link, hung under the root. -/
theorem addToGraph_outside (y : World) (g : List Entry) (o r : Nat) (hr : y.hasRel o = true)
    (href : y.refOf (y.op o).link = some (some r)) (hin : inGraph g r = false)
    (hl : y.leafAtAny g (y.chansOf o) = none) :
    y.addToGraph g o =
      ((({ y with warnings := y.warnings + 1 } : World).newLink {}).1.setLink o y.links.size, attach g none o) := by
  rw [addToGraph_eq, hr, href, hl]
  simp [addDec, hin, modW, relinkDec, relinkW, bump]

theorem relinkDec_eq (a : Nat) (b : Bool) (leaf : Option Nat) :
    relinkDec a b leaf = (some (a, b, { refs := leaf.toList }), leaf) := by
  cases leaf <;> rfl

/-- the heap is left alone and the operation hung under the root (no relation, no node sharing a channel) or under its
    reference (a node of the graph); or the operation gets a fresh plain link naming the node sharing a channel, if any,
    and is hung under that node. -/
theorem addDec_cases (hr : Bool) (leaf : Option Nat) (ref : Option (Option Nat)) (g : List Entry) :
    (hr = false ∧ leaf = none ∧ addDec hr leaf ref g = (none, none)) ∨
    (∃ r, hr = true ∧ ref = some (some r) ∧ inGraph g r = true ∧ addDec hr leaf ref g = (none, some r)) ∨
    (∃ a b, addDec hr leaf ref g = (some (a, b, { refs := leaf.toList }), leaf)) := by
  cases hr with
  | false =>
    cases leaf with
    | none => exact Or.inl ⟨rfl, rfl, rfl⟩
    | some lf => exact Or.inr (Or.inr ⟨0, false, rfl⟩)
  | true =>
    have other : ∀ b, relinkDec 1 b leaf = (some (1, b, { refs := leaf.toList }), leaf) := fun b => relinkDec_eq 1 b leaf
    match ref with
    | none => exact Or.inr (Or.inr ⟨1, true, other true⟩)
    | some none => exact Or.inr (Or.inr ⟨1, true, other true⟩)
    | some (some r) =>
      cases hin : inGraph g r with
      | true => exact Or.inr (Or.inl ⟨r, rfl, rfl, hin, by simp [addDec, hin]⟩)
      | false => exact Or.inr (Or.inr ⟨1, false, by simp [addDec, hin, other]⟩)

/-- `addDec_cases` read on `add_to_graph` itself. -/
theorem addToGraph_cases (y : World) (g : List Entry) (o : Nat) :
    (y.hasRel o = false ∧ y.leafAtAny g (y.chansOf o) = none ∧ y.addToGraph g o = (y, attach g none o)) ∨
    (∃ r, y.hasRel o = true ∧ y.refOf (y.op o).link = some (some r) ∧ inGraph g r = true ∧
      y.addToGraph g o = (y, attach g (some r) o)) ∨
    (∃ a b, y.addToGraph g o =
      (relinkW a b { refs := (y.leafAtAny g (y.chansOf o)).toList } o y, attach g (y.leafAtAny g (y.chansOf o)) o)) := by
  rw [addToGraph_eq]
  rcases addDec_cases (y.hasRel o) (y.leafAtAny g (y.chansOf o)) (y.refOf (y.op o).link) g with
    ⟨h1, h2, e⟩ | ⟨r, h1, h2, h3, e⟩ | ⟨a, b, e⟩ <;> rw [e]
  · exact Or.inl ⟨h1, h2, rfl⟩
  · exact Or.inr (Or.inl ⟨r, h1, h2, h3, rfl⟩)
  · exact Or.inr (Or.inr ⟨a, b, rfl⟩)

theorem addDec_parent (hr : Bool) (leaf : Option Nat) (ref : Option (Option Nat)) (g : List Entry)
    (hleaf : ∀ lf, leaf = some lf → inGraph g lf = true) :
    ∀ q, (addDec hr leaf ref g).2 = some q → inGraph g q = true := by
  intro q h
  rcases addDec_cases hr leaf ref g with ⟨_, _, e⟩ | ⟨r, _, _, hin, e⟩ | ⟨a, b, e⟩ <;> rw [e] at h
  · cases h
  · cases h; exact hin
  · exact hleaf q h

/-- a link allocated by `add_to_graph` is not a group link. -/
theorem addDec_single (hr : Bool) (leaf : Option Nat) (ref : Option (Option Nat)) (g : List Entry)
    (a : Nat) (b : Bool) (L : Link) (h : (addDec hr leaf ref g).1 = some (a, b, L)) : L.multi = false := by
  rcases addDec_cases hr leaf ref g with ⟨_, _, e⟩ | ⟨r, _, _, _, e⟩ | ⟨a', b', e⟩ <;> rw [e] at h
  · cases h
  · cases h
  · cases h; rfl

theorem modW_size (k : Option (Nat × Bool × Link)) (o : Nat) (y : World) : (modW k o y).ops.size = y.ops.size := by
  cases k with
  | none => rfl
  | some k => exact World.ops_size_setLink _ _ _

theorem modW_op (k : Option (Nat × Bool × Link)) (o : Nat) (y : World) (j : Nat) :
    (modW k o y).op j = if k.isSome ∧ o = j ∧ o < y.ops.size then { y.op o with link := y.links.size } else y.op j := by
  cases k with
  | none => simp [modW]
  | some k =>
    obtain ⟨a, b, L⟩ := k
    show (World.setLink _ o y.links.size).op j = _
    rw [World.op_setLink]
    simp only [Option.isSome_some, true_and]
    rfl

theorem modW_links (k : Option (Nat × Bool × Link)) (o : Nat) (y : World) :
    (modW k o y).links = match k with
      | none => y.links
      | some (_, _, L) => y.links.push L := by
  cases k with
  | none => rfl
  | some k => rfl

theorem modW_links_size (k : Option (Nat × Bool × Link)) (o : Nat) (y : World) :
    y.links.size ≤ (modW k o y).links.size := by
  rw [modW_links]
  cases k with
  | none => exact Nat.le_refl _
  | some k => simp

theorem modW_links_size_some (a : Nat) (b : Bool) (L : Link) (o : Nat) (y : World) :
    (modW (some (a, b, L)) o y).links.size = y.links.size + 1 := by
  rw [modW_links]; simp

theorem modW_lnk_some (a : Nat) (b : Bool) (L : Link) (o : Nat) (y : World) (l : Nat) :
    (modW (some (a, b, L)) o y).lnk l = if l = y.links.size then L else y.lnk l :=
  (bump a b y).lnk_newLink L l

theorem modW_lnk (k : Option (Nat × Bool × Link)) (o : Nat) (y : World) (l : Nat) (hl : l < y.links.size) :
    (modW k o y).lnk l = y.lnk l := by
  cases k with
  | none => rfl
  | some k => rw [modW_lnk_some, if_neg (Nat.ne_of_lt hl)]

theorem modW_lnk_new (a : Nat) (b : Bool) (L : Link) (o : Nat) (y : World) :
    (modW (some (a, b, L)) o y).lnk y.links.size = L := by
  rw [modW_lnk_some, if_pos rfl]

theorem modW_identKeys (k : Option (Nat × Bool × Link)) (o : Nat) (y : World) :
    (modW k o y).identKeys = y.identKeys := by
  cases k with
  | none => rfl
  | some k => rfl

theorem modW_shape (k : Option (Nat × Bool × Link)) (o : Nat) (y : World) : Shape (modW k o y) y := by
  cases k with
  | none => exact Shape.refl y
  | some k => exact Shape.setLink ⟨rfl, fun _ => rfl⟩ o y.links.size

end Commute

theorem chansOf_leaf (w : World) (o : Nat) (h : (w.op o).isComp = false) : w.chansOf o = (w.op o).leafChans := by
  show w.chans (w.ops.size + 1 + 1) o = _
  rw [World.chans]
  simp only [h, Bool.false_eq_true, if_false]

theorem add_eq_setGraph (w : World) (c o : Nat) :
    w.add c o = (w.addToGraph (w.op c).graph o).1.setGraph c (w.addToGraph (w.op c).graph o).2 := by
  rw [World.add]

theorem addToGraph_op_other (w : World) (g : List Entry) (o j : Nat) (h : j ≠ o) :
    (w.addToGraph g o).1.op j = w.op j := by
  rw [Commute.addToGraph_eq, Commute.modW_op, if_neg (fun hh => h hh.2.1.symm)]

/-- `add` writes only the composite (its graph) and the added object (its link). -/
theorem add_op_other (w : World) (c o j : Nat) (hjc : j ≠ c) (hjo : j ≠ o) : (w.add c o).op j = w.op j := by
  rw [add_eq_setGraph, World.op_setGraph_of_ne _ _ hjc]
  exact addToGraph_op_other w _ o j hjo

theorem add_root_eq (w : World) (c o : Nat) (hr : w.hasRel o = false)
    (hl : w.leafAtAny (w.op c).graph (w.chansOf o) = none) :
    w.add c o = w.setGraph c (attach (w.op c).graph none o) := by
  unfold World.add
  rw [Commute.addToGraph_root w _ _ hr hl]

theorem add_child_eq (w : World) (c o r : Nat) (hr : w.hasRel o = true)
    (hm : (w.lnk (w.op o).link).multi = false) (hh : (w.lnk (w.op o).link).refs.head? = some r)
    (hin : inGraph (w.op c).graph r = true) :
    w.add c o = w.setGraph c (attach (w.op c).graph (some r) o) := by
  unfold World.add
  rw [Commute.addToGraph_child w _ _ r hr (by rw [w.refOf_single _ hm, hh]) hin]

theorem add_outside_eq (w : World) (c o r : Nat) (hr : w.hasRel o = true)
    (hm : (w.lnk (w.op o).link).multi = false) (hh : (w.lnk (w.op o).link).refs.head? = some r)
    (hin : inGraph (w.op c).graph r = false) (hl : w.leafAtAny (w.op c).graph (w.chansOf o) = none) :
    w.add c o = ((({ w with warnings := w.warnings + 1 } : World).newLink {}).1.setLink o w.links.size).setGraph c
      (attach (w.op c).graph none o) := by
  unfold World.add
  rw [Commute.addToGraph_outside w _ _ r hr (by rw [w.refOf_single _ hm, hh]) hin hl]

theorem add_relink_eq (w : World) (c o lf : Nat) (hr : w.hasRel o = false)
    (hl : w.leafAtAny (w.op c).graph (w.chansOf o) = some lf) :
    w.add c o = (((w.newLink { refs := [lf] }).1.setLink o w.links.size).setGraph c
      (attach (w.op c).graph (some lf) o)) := by
  unfold World.add
  rw [Commute.addToGraph_relink w _ _ lf hr hl]

end Qco
