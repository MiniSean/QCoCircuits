import QcoVerif.Lemmas.DefinedUnrollCopy
/-
  C01, definedness after unrolling: `extend` with a fresh copy keeps the acyclicity certificate.

  * `extend_ranked2` — a variant of `Defined.extend_ranked` that does NOT ask the given ranking to respect the links the
    appended nodes carry BEFORE the `extend` (a plain link of an appended node is validated or replaced by `add`, a missing
    one is replaced by the group link to the leaves): only graph edges and the links of the other objects must be ranked.
  * `fresh_rank`     — a ranking of the heap after `copy()` in which the nodes of the copy increase in listing order
    (rank = listing position of the top-level node an object sits below, then the old rank).
  * `copy_extend_certified` — `(w.copy orig).1.extend c (w.copy orig).2` is closed and acyclic.
-/
namespace Qco.DefinedUnroll

open Qco Qco.Defined

theorem add_refs_other {w : World} (hc : Closed w) (c o j : Nat) (hj : j ≠ o) :
    ((w.add c o).lnk ((w.add c o).op j).link).refs = (w.lnk (w.op j).link).refs := by
  rw [add_lnk_link]
  exact (addToGraph_linkStep w (w.op c).graph o hc.link).refs_other j hj

theorem add_refs_o {w : World} (hc : Closed w) (c o : Nat) :
    ∀ r ∈ ((w.add c o).lnk ((w.add c o).op o).link).refs,
      r ∈ (w.lnk (w.op o).link).refs ∨ r ∈ listing (w.op c).graph := by
  intro r hr
  rw [add_lnk_link] at hr
  exact (addToGraph_linkStep w (w.op c).graph o hc.link).refs_o r hr

structure ExtInv2 (w0 : World) (rk : Nat → Nat) (c rel : Nat) (N : List Nat) (w : World) (M : List Nat) : Prop where
  closed : Closed w
  clt : c < w.ops.size
  rankedG : ∀ x y, GDep w x y → rk y < rk x
  rankedL : ∀ x, x ∉ M → ∀ y ∈ (w.lnk (w.op x).link).refs, rk y < rk x
  single : ∀ n ∈ M, SingleLink (w.lnk (w.op n).link)
  rel_lt : rel < w.links.size
  rel_rk : ∀ r ∈ (w.lnk rel).refs, ∀ n ∈ N, rk r < rk n
  rel_cl : ∀ r ∈ (w.lnk rel).refs, r < w.ops.size
  nodes : ∀ e ∈ (w.op c).graph, ∀ n ∈ M, rk e.node < rk n
  below : ∀ n ∈ M, rk n < rk c ∧ n < w.ops.size
  sub : ∀ n ∈ M, n ∈ N
  incr : M.Pairwise (fun a b => rk a < rk b)
  links : LinksExt w0 w

theorem extInv2_step {w0 : World} {rk : Nat → Nat} {c rel : Nat} {N : List Nat} {w : World} {n : Nat} {M : List Nat}
    (h : ExtInv2 w0 rk c rel N w (n :: M)) :
    ExtInv2 w0 rk c rel N ((if !w.hasRel n then w.setLink n rel else w).add c n) M := by
  have hn := h.below n List.mem_cons_self
  have hnM : ∀ m ∈ M, m ≠ n := fun m hm e => by
    have := (List.pairwise_cons.mp h.incr).1 m hm
    rw [e] at this
    omega
  have hcn : c ≠ n := fun e => by
    have := hn.1
    rw [e] at this
    omega
  have hnodes : ∀ r, r ∈ listing (w.op c).graph → rk r < rk n := by
    intro r hr
    obtain ⟨e, he, rfl⟩ := mem_listing_iff.mp hr
    exact h.nodes e he n List.mem_cons_self
  -- `w1` is the heap after the optional `setLink`: only the link of `n` may differ
  have key : ∀ w1 : World, Closed w1 → w1.links = w.links → w1.ops.size = w.ops.size →
      (∀ j, j ≠ n → w1.op j = w.op j) → (∀ j, (w1.op j).noLink = (w.op j).noLink) →
      (∀ r ∈ ((w1.add c n).lnk ((w1.add c n).op n).link).refs, rk r < rk n) →
      ExtInv2 w0 rk c rel N (w1.add c n) M := by
    intro w1 hc1 hl1 hs1 hop1 hnl1 hrn
    have hle : LinksExt w (w1.add c n) := LinksExt.trans (LinksExt.of_eq hl1) (add_linksExt hc1 c n)
    have hsz : (w1.add c n).ops.size = w.ops.size := by rw [add_size hc1, hs1]
    refine ⟨add_closed hc1 c n (by rw [hs1]; exact hn.2), by rw [hsz]; exact h.clt, ?_, ?_, ?_, ?_, ?_, ?_, ?_, ?_,
      fun m hm => h.sub m (List.mem_cons_of_mem _ hm), (List.pairwise_cons.mp h.incr).2, LinksExt.trans h.links hle⟩
    · intro x y hxy
      rcases gdep_add hc1 c n hxy with hd | ⟨rfl, rfl⟩
      · unfold GDep at hd
        rw [noLink_isComp (hnl1 x), noLink_graph (hnl1 x)] at hd
        exact h.rankedG x y hd
      · exact hn.1
    · intro x hx y hy
      by_cases hxn : x = n
      · subst hxn; exact hrn y hy
      · rw [add_refs_other hc1 c n x hxn, hop1 x hxn, World.lnk_of_links_eq hl1] at hy
        refine h.rankedL x (fun hm => ?_) y hy
        rcases List.mem_cons.mp hm with e | e
        · exact hxn e
        · exact hx e
    · intro m hm
      have hmc : m ≠ c := fun e => by
        have := (h.below m (List.mem_cons_of_mem _ hm)).1
        rw [e] at this
        omega
      have hop : (w1.add c n).op m = w.op m := by
        rw [add_op_other w1 c n m hmc (hnM m hm), hop1 m (hnM m hm)]
      rw [lnk_frame h.closed hle hop]
      exact h.single m (List.mem_cons_of_mem _ hm)
    · exact Nat.lt_of_lt_of_le h.rel_lt hle.lsize
    · rw [hle.lnk_old rel h.rel_lt]; exact h.rel_rk
    · rw [hle.lnk_old rel h.rel_lt, hsz]; exact h.rel_cl
    · intro e he m hm
      rcases add_nodes hc1 c n he with he | ⟨_, hen⟩
      · rw [hop1 c hcn] at he
        exact h.nodes e he m (List.mem_cons_of_mem _ hm)
      · rw [hen]
        exact (List.pairwise_cons.mp h.incr).1 m hm
    · intro m hm
      rw [hsz]
      exact h.below m (List.mem_cons_of_mem _ hm)
  split
  · -- no relation: `n` gets the link `rel`, whose references `add` keeps or replaces by nodes of `c`
    have hc1 : Closed (w.setLink n rel) := setLink_closed h.closed n rel h.rel_lt h.rel_cl
    apply key _ hc1 (w.links_setLink n rel) (w.ops_size_setLink n rel)
      (fun j hj => w.op_setLink_of_ne rel hj) (fun j => noLink_setLink w n rel j)
    intro r hr
    rcases add_refs_o hc1 c n r hr with h1 | h1
    · rw [World.lnk_setLink, w.op_setLink_self rel hn.2] at h1
      exact h.rel_rk r h1 n (h.sub n List.mem_cons_self)
    · rw [w.op_setLink_of_ne rel hcn] at h1
      exact hnodes r h1
  · -- a plain link: validated or replaced, its references are nodes of `c` afterwards
    apply key w h.closed rfl rfl (fun _ _ => rfl) (fun _ => rfl)
    intro r hr
    have := add_refs_single h.closed c n hn.2 (h.single n List.mem_cons_self) r hr
    exact hnodes r ((listing_perm _).mem_iff.mpr this)

/-- `extend` keeps a ranking of the graph edges and of the links of all objects but the appended nodes, in which the
    appended nodes lie strictly between the nodes of `c` and `c`, increasing in listing order, and carry plain links. -/
theorem extend_ranked2 {w : World} {rk : Nat → Nat} (hc : Closed w) (c other : Nat) (hcl : c < w.ops.size)
    (hG : ∀ x y, GDep w x y → rk y < rk x)
    (hLk : ∀ x, x ∉ listing (w.op other).graph → ∀ y ∈ (w.lnk (w.op x).link).refs, rk y < rk x)
    (hS : ∀ n ∈ listing (w.op other).graph, SingleLink (w.lnk (w.op n).link))
    (h1 : ∀ n ∈ listing (w.op other).graph, rk n < rk c)
    (h2 : ∀ e ∈ (w.op c).graph, ∀ n ∈ listing (w.op other).graph, rk e.node < rk n)
    (h3 : (listing (w.op other).graph).Pairwise (fun a b => rk a < rk b)) :
    Ranked (w.extend c other) rk ∧ Closed (w.extend c other) ∧ LinksExt w (w.extend c other) := by
  unfold World.extend
  simp only
  -- the loop started with the group link `L` (references: nodes of `c`)
  have key : ∀ L : Link, (∀ r ∈ L.refs, ∃ e ∈ (w.op c).graph, e.node = r) →
      ExtInv2 w rk c (w.newLink L).2 (listing (w.op other).graph) (w.newLink L).1 (listing (w.op other).graph) := by
    intro L hL
    have hlo : ∀ j, (w.newLink L).1.lnk ((w.newLink L).1.op j).link = w.lnk (w.op j).link :=
      fun j => w.lnk_newLink_of_lt L (hc.link j)
    refine ⟨newLink_closed hc L, hcl, hG, ?_, ?_, ?_, ?_, ?_, h2, ?_, fun n hn => hn, h3, ?_⟩
    · intro x hx y hy; rw [hlo] at hy; exact hLk x hx y hy
    · intro n hn; rw [hlo]; exact hS n hn
    · rw [w.links_size_newLink L]; exact Nat.lt_succ_self _
    · rw [World.newLink_snd, World.lnk_newLink_new]
      intro r hr n hn
      obtain ⟨e, he, rfl⟩ := hL r hr
      exact h2 e he n hn
    · rw [World.newLink_snd, World.lnk_newLink_new]
      intro r hr
      obtain ⟨e, he, rfl⟩ := hL r hr
      exact hc.node c e he
    · intro n hn
      refine ⟨h1 n hn, ?_⟩
      obtain ⟨e, he, rfl⟩ := mem_listing_iff.mp hn
      exact hc.node other e he
    · exact ⟨by rw [w.links_size_newLink L]; exact Nat.le_succ _, fun l hl => w.lnk_newLink_of_lt L hl⟩
  have fin : ∀ L : Link, (∀ r ∈ L.refs, ∃ e ∈ (w.op c).graph, e.node = r) →
      ∀ wf, wf = (listing (w.op other).graph).foldl
        (fun w' n => (if !w'.hasRel n then w'.setLink n (w.newLink L).2 else w').add c n) (w.newLink L).1 →
      Ranked wf rk ∧ Closed wf ∧ LinksExt w wf := by
    intro L hL wf hwf
    have h := foldl_inv_rest (fun M w' => ExtInv2 w rk c (w.newLink L).2 (listing (w.op other).graph) w' M) _
      (fun _ _ _ => extInv2_step) _ _ (key L hL)
    rw [← hwf] at h
    exact ⟨⟨fun o r hr => h.rankedL o (fun hm => by cases hm) r hr,
      fun o hco e he => h.rankedG o e.node ⟨hco, e, he, rfl⟩⟩, h.closed, h.links⟩
  split
  · exact fin {} (fun r hr => by cases hr) _ rfl
  · exact fin { multi := true, refs := leaves (w.op c).graph } (fun r hr => mem_leaves hr) _ rfl

theorem mul_step {Q a b : Nat} (h : a < b) : Q * (a + 1) ≤ Q * b := Nat.mul_le_mul_left Q h

/-- given a forest `N` of `Nested` trees in a closed acyclic heap there is a ranking of all graph edges and of the links
    of all objects outside `N`, bounded, in which `N` increases in list order. -/
theorem fresh_rank {w : World} {f : Nat} {N : List Nat} (hc : Closed w) (ha : Acyclic w) (hF : Forest w f N)
    (hN : ∀ n ∈ N, Nested w f n) :
    ∃ (rkF : Nat → Nat) (Mb : Nat), (∀ x, rkF x < Mb) ∧ (∀ x y, GDep w x y → rkF y < rkF x) ∧
      (∀ x, x ∉ N → ∀ y ∈ (w.lnk (w.op x).link).refs, rkF y < rkF x) ∧ N.Pairwise (fun a b => rkF a < rkF b) := by
  obtain ⟨rk0, hrk0⟩ := ha
  obtain ⟨hr, hB⟩ := hrk0.compress hc
  obtain ⟨rk2, hrk2⟩ : ∃ rk2 : Nat → Nat, rk2 = crank w rk0 := ⟨_, rfl⟩
  rw [← hrk2] at hr hB
  -- the position of the first tree of `N` an object sits below (`N.length`: none)
  obtain ⟨idx, hidx⟩ : ∃ idx : Nat → Nat, ∀ x, idx x = N.findIdx (fun n => decide (x ∈ w.below f n)) :=
    ⟨_, fun _ => rfl⟩
  have I1 : ∀ x, idx x ≤ N.length := fun x => by rw [hidx]; exact List.findIdx_le_length
  have I2 : ∀ x (h : idx x < N.length), x ∈ w.below f N[idx x] := by
    intro x h
    have h' : N.findIdx (fun n => decide (x ∈ w.below f n)) < N.length := by rw [← hidx]; exact h
    have := List.findIdx_getElem (w := h')
    simp only [decide_eq_true_eq] at this
    simp only [hidx]
    exact this
  have I3 : ∀ x i (hi : i < N.length), x ∈ w.below f N[i] → idx x ≤ i := by
    intro x i hi hx
    apply Nat.le_of_not_lt
    intro hlt
    rw [hidx] at hlt
    have := List.not_of_lt_findIdx hlt
    simp only [decide_eq_false_iff_not] at this
    exact this hx
  -- edges never increase the position
  have CG : ∀ x y, GDep w x y → idx y ≤ idx x := by
    intro x y hxy
    by_cases hlt : idx x < N.length
    · obtain ⟨hcx, e, he, rfl⟩ := hxy
      have hmem : N[idx x] ∈ N := List.getElem_mem hlt
      have hyk : e.node ∈ w.kids x := List.mem_map.mpr ⟨e, he, rfl⟩
      exact I3 _ _ hlt (below_kids_closed w f _ (hF.tree _ hmem) x (I2 x hlt) hcx _ hyk)
    · have := I1 y; omega
  have CL : ∀ x, x ∉ N → ∀ y ∈ (w.lnk (w.op x).link).refs, idx y ≤ idx x := by
    intro x hxN y hy
    by_cases hlt : idx x < N.length
    · have hmem : N[idx x] ∈ N := List.getElem_mem hlt
      have hne : x ≠ N[idx x] := fun e => hxN (e ▸ hmem)
      exact I3 _ _ hlt ((nested_below w f _ (hF.tree _ hmem) (hN _ hmem) x (I2 x hlt) hne).2 y hy)
    · have := I1 y; omega
  have I4 : ∀ i (hi : i < N.length), idx N[i] = i := by
    intro i hi
    have hmem : N[i] ∈ N := List.getElem_mem hi
    have hle := I3 N[i] i hi (hF.tree _ hmem).self_mem
    by_cases hlt : idx N[i] < i
    · exfalso
      have hj : idx N[i] < N.length := by omega
      have hmemj : N[idx N[i]] ∈ N := List.getElem_mem hj
      have hne : N[idx N[i]] ≠ N[i] := (List.pairwise_iff_getElem.mp hF.nodup) _ _ hj hi hlt
      exact hF.disj _ hmemj _ hmem hne N[i] (I2 N[i] hj) (hF.tree _ hmem).self_mem
    · omega
  refine ⟨fun x => (w.ops.size + 1) * idx x + rk2 x, (w.ops.size + 1) * (N.length + 1), ?_, ?_, ?_, ?_⟩
  · intro x
    have h1 := Nat.mul_le_mul_left (w.ops.size + 1) (I1 x)
    have h2 := hB x
    show (w.ops.size + 1) * idx x + rk2 x < (w.ops.size + 1) * (N.length + 1)
    rw [Nat.mul_succ]
    omega
  · intro x y hxy
    have h1 := Nat.mul_le_mul_left (w.ops.size + 1) (CG x y hxy)
    have h2 := ranked_iff.mp hr x y (Or.inr hxy)
    simp only
    omega
  · intro x hx y hy
    have h1 := Nat.mul_le_mul_left (w.ops.size + 1) (CL x hx y hy)
    have h2 := hr.ref x y hy
    simp only
    omega
  · rw [List.pairwise_iff_getElem]
    intro i j hi hj hij
    simp only
    rw [I4 i hi, I4 j hj]
    have h1 := mul_step (Q := w.ops.size + 1) hij
    have h2 := hB N[i]
    rw [Nat.mul_succ] at h1
    omega

/-- extending `c` with a fresh copy of a tree without group links keeps the certificate. -/
theorem copy_extend_certified {w : World} {f c orig : Nat} (hc : Closed w) (ha : Acyclic w) (hcl : c < w.ops.size)
    (hcc : (w.op c).isComp = true) (ht : TreeBelow w (f + 1) orig) (hoc : (w.op orig).isComp = true)
    (hf : f + 1 ≤ w.depthFuel) (hsu : SingleUnder w (f + 1) orig) :
    Closed ((w.copy orig).1.extend c (w.copy orig).2) ∧ Acyclic ((w.copy orig).1.extend c (w.copy orig).2) ∧
    LinksExt w ((w.copy orig).1.extend c (w.copy orig).2) ∧
    LinksExt (w.copy orig).1 ((w.copy orig).1.extend c (w.copy orig).2) := by
  have hcs := copy_tree w (f + 1) orig ht hf
  obtain ⟨c2, a2, _⟩ := copy_certified hc ha orig ht.lt
  obtain ⟨hdeps, hnest⟩ := copy_fresh ht hf hc ha hsu
  have hle := copy_linksExt hc ha orig ht.lt
  have hid := hcs.id
  rw [hid] at hcs hnest ⊢
  generalize (w.copy orig).1 = w2 at hcs c2 a2 hdeps hnest hle ⊢
  have hcpc : (w2.op w.ops.size).isComp = true := by rw [hcs.kind]; exact hoc
  have hp : (listing (w2.op w.ops.size).graph).Perm (w2.kids w.ops.size) := listing_perm _
  have hFN : Forest w2 f (listing (w2.op w.ops.size).graph) := (hcs.tree.forest hcpc).perm hp.symm
  have hnestN : ∀ n ∈ listing (w2.op w.ops.size).graph, Nested w2 f n :=
    fun n hn => (hnest hcpc n (hp.mem_iff.mp hn)).2.2
  have hfreshN : ∀ n ∈ listing (w2.op w.ops.size).graph, w.ops.size ≤ n ∧ n < w2.ops.size := by
    intro n hn
    have hk := hp.mem_iff.mp hn
    have hb : n ∈ w2.below (f + 1) w.ops.size :=
      below_kid w2 f _ n n hcpc hk (hcs.tree.kid hcpc hk).self_mem
    exact ⟨hcs.fresh n hb, below_lt w2 (f + 1) _ hcs.tree n hb⟩
  obtain ⟨rkF, Mb, hMb, hFG, hFL, hFP⟩ := fresh_rank c2 a2 hFN hnestN
  obtain ⟨rk0, hrk0⟩ := ha
  obtain ⟨hr, hB⟩ := hrk0.compress hc
  obtain ⟨rk1, hrk1⟩ : ∃ rk1 : Nat → Nat, rk1 = crank w rk0 := ⟨_, rfl⟩
  rw [← hrk1] at hr hB
  -- objects outside the fresh range are as in `w` and refer to objects of `w`
  have hold : ∀ x, ¬ (w.ops.size ≤ x ∧ x < w2.ops.size) → w2.op x = w.op x := by
    intro x hx
    by_cases h1 : x < w.ops.size
    · exact hcs.old x h1
    · rw [World.op_of_ge w2 (by omega), World.op_of_ge w (by omega)]
  have holdG : ∀ x y, ¬ (w.ops.size ≤ x ∧ x < w2.ops.size) → GDep w2 x y → GDep w x y ∧ y < w.ops.size := by
    intro x y hx hxy
    unfold GDep at hxy ⊢
    rw [hold x hx] at hxy
    obtain ⟨h1, e, he, rfl⟩ := hxy
    exact ⟨⟨h1, e, he, rfl⟩, hc.node x e he⟩
  have holdL : ∀ x y, ¬ (w.ops.size ≤ x ∧ x < w2.ops.size) → y ∈ (w2.lnk (w2.op x).link).refs →
      y ∈ (w.lnk (w.op x).link).refs ∧ y < w.ops.size := by
    intro x y hx hy
    rw [lnk_frame hc hle (hold x hx)] at hy
    exact ⟨hy, hc.ref x y hy⟩
  have hfreshD : ∀ x y, (w.ops.size ≤ x ∧ x < w2.ops.size) → Dep w2 x y → (w.ops.size ≤ y ∧ y < w2.ops.size) := by
    intro x y hx hxy
    refine ⟨hdeps x y hx.1 hx.2 hxy, ?_⟩
    rcases hxy with h | ⟨_, e, he, rfl⟩
    · exact c2.ref x y h
    · exact c2.node x e he
  -- old objects keep their rank, spread; the fresh ones sit between the nodes of `c` and `c`
  obtain ⟨rk', hrk'⟩ : ∃ rk' : Nat → Nat, ∀ x, rk' x =
      if w.ops.size ≤ x ∧ x < w2.ops.size then (Mb + 1) * rk1 c + 1 + rkF x else (Mb + 1) * (rk1 x + 1) :=
    ⟨_, fun _ => rfl⟩
  have oldold : ∀ x y, ¬ (w.ops.size ≤ x ∧ x < w2.ops.size) → y < w.ops.size → rk1 y < rk1 x → rk' y < rk' x := by
    intro x y hx hy hlt
    rw [hrk' x, hrk' y, if_neg hx, if_neg (by omega)]
    have := mul_step (Q := Mb + 1) (show rk1 y + 1 < rk1 x + 1 by omega)
    rw [Nat.mul_succ] at this
    omega
  have freshfresh : ∀ x y, (w.ops.size ≤ x ∧ x < w2.ops.size) → (w.ops.size ≤ y ∧ y < w2.ops.size) →
      rkF y < rkF x → rk' y < rk' x := by
    intro x y hx hy hlt
    rw [hrk' x, hrk' y, if_pos hx, if_pos hy]
    omega
  have hcnf : ¬ (w.ops.size ≤ c ∧ c < w2.ops.size) := by omega
  have hopc : w2.op c = w.op c := hcs.old c hcl
  have hc2l : c < w2.ops.size := Nat.lt_trans hcl hcs.size
  have hrk := extend_ranked2 (rk := rk') c2 c w.ops.size hc2l ?_ ?_ ?_ ?_ ?_ ?_
  · exact ⟨hrk.2.1, ⟨rk', hrk.1⟩, LinksExt.trans hle hrk.2.2, hrk.2.2⟩
  · intro x y hxy
    by_cases hx : w.ops.size ≤ x ∧ x < w2.ops.size
    · exact freshfresh x y hx (hfreshD x y hx (Or.inr hxy)) (hFG x y hxy)
    · obtain ⟨h1, h2⟩ := holdG x y hx hxy
      exact oldold x y hx h2 (ranked_iff.mp hr x y (Or.inr h1))
  · intro x hxN y hy
    by_cases hx : w.ops.size ≤ x ∧ x < w2.ops.size
    · exact freshfresh x y hx (hfreshD x y hx (Or.inl hy)) (hFL x hxN y hy)
    · obtain ⟨h1, h2⟩ := holdL x y hx hy
      exact oldold x y hx h2 (hr.ref x y h1)
  · intro n hn
    exact (hnest hcpc n (hp.mem_iff.mp hn)).1
  · intro n hn
    rw [hrk' n, hrk' c, if_pos (hfreshN n hn), if_neg hcnf, Nat.mul_succ]
    have := hMb n
    omega
  · intro e he n hn
    rw [hopc] at he
    have helt : e.node < w.ops.size := hc.node c e he
    have hlt : rk1 e.node < rk1 c := hr.node c hcc e he
    rw [hrk' n, hrk' e.node, if_pos (hfreshN n hn), if_neg (by omega)]
    have := mul_step (Q := Mb + 1) hlt
    omega
  · refine hFP.imp_of_mem ?_
    intro a b ha hb hab
    exact freshfresh b a (hfreshN b hb) (hfreshN a ha) hab

end Qco.DefinedUnroll
