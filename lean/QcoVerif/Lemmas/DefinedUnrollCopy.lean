import QcoVerif.Lemmas.DefinedCopy
import QcoVerif.Lemmas.UnrollNested
import QcoVerif.Lemmas.Heap
/-
  C01, definedness after unrolling: what a copy of a tree without group links looks like.

  `SingleUnder w f o`, the side condition of the unrolling theorems: no object strictly below `o` carries a group
  (latest-of) link.  The copy of such a tree is `Nested`: every node strictly below the new root carries a plain link
  whose references are nodes of the SAME graph, because `addToGraph` validates or replaces a plain link; and a new object
  depends on values of the lookup and on new objects only (`copyObj_fresh`), so that the result of `copy()` is a
  dependency component of its own (`copy_fresh`).  The walk over `copyObj` runs next to `Defined.copyObj_post`
  (certificate) and `copyObj_tree` (tree shape) and takes their loop invariants as given.
-/
namespace Qco.DefinedUnroll

open Qco Qco.Defined

structure LinksExt (w w' : World) : Prop where
  lsize : w.links.size ≤ w'.links.size
  lnk_old : ∀ l, l < w.links.size → w'.lnk l = w.lnk l

theorem LinksExt.refl (w : World) : LinksExt w w := ⟨Nat.le_refl _, fun _ _ => rfl⟩

theorem LinksExt.trans {a b c : World} (h1 : LinksExt a b) (h2 : LinksExt b c) : LinksExt a c :=
  ⟨Nat.le_trans h1.lsize h2.lsize,
    fun l hl => (h2.lnk_old l (Nat.lt_of_lt_of_le hl h1.lsize)).trans (h1.lnk_old l hl)⟩

theorem LinksExt.of_eq {w w' : World} (h : w'.links = w.links) : LinksExt w w' :=
  ⟨by rw [h]; exact Nat.le_refl _, fun l _ => World.lnk_of_links_eq h l⟩

theorem lnk_frame {w w' : World} (hc : Closed w) (hl : LinksExt w w') {j : Nat} (hop : w'.op j = w.op j) :
    w'.lnk (w'.op j).link = w.lnk (w.op j).link := by
  rw [hop]; exact hl.lnk_old _ (hc.link j)

theorem add_linksExt {w : World} (hc : Closed w) (c o : Nat) : LinksExt w (w.add c o) :=
  ⟨add_links_size hc c o, fun l hl => add_lnk_old hc c o l hl⟩

def SingleUnder (w : World) (f o : Nat) : Prop :=
  ∀ j ∈ w.below f o, j ≠ o → SingleLink (w.lnk (w.op j).link)

/-- every node strictly below `o` carries a plain link whose references are nodes of the same graph. -/
def Nested (w : World) : Nat → Nat → Prop
  | 0, _ => True
  | f+1, o => (w.op o).isComp = true → ∀ n ∈ w.kids o,
      SingleLink (w.lnk (w.op n).link) ∧ (∀ y ∈ (w.lnk (w.op n).link).refs, y ∈ w.kids o) ∧ Nested w f n

theorem nested_leaf (w : World) (f o : Nat) (h : (w.op o).isComp = false) : Nested w f o := by
  cases f with
  | zero => trivial
  | succ f => intro hc; rw [h] at hc; cases hc

theorem mem_below_cases {w : World} {f o x : Nat} (hx : x ∈ w.below (f + 1) o) (hne : x ≠ o) :
    (w.op o).isComp = true ∧ ∃ n ∈ w.kids o, x ∈ w.below f n := by
  by_cases hc : (w.op o).isComp = true
  · rw [mem_below_comp w f o x hc] at hx
    rcases hx with h | h
    · exact absurd h hne
    · exact ⟨hc, h⟩
  · have hl : (w.op o).isComp = false := by simpa using hc
    rw [below_leaf w f o hl] at hx
    simp only [List.mem_singleton] at hx
    exact absurd hx hne

theorem below_kids_closed (w : World) : ∀ (f o : Nat), TreeBelow w f o → ∀ x ∈ w.below f o,
    (w.op x).isComp = true → ∀ y ∈ w.kids x, y ∈ w.below f o := by
  intro f
  induction f with
  | zero => intro o h; exact h.elim
  | succ f ih =>
    intro o ht x hx hcx y hy
    by_cases hxo : x = o
    · subst hxo
      exact below_kid w f x y y hcx hy (ht.kid hcx hy).self_mem
    · obtain ⟨hc, n, hn, hxn⟩ := mem_below_cases hx hxo
      exact below_kid w f o n y hc hn (ih n (ht.kid hc hn) x hxn hcx y hy)

theorem nested_below (w : World) : ∀ (f o : Nat), TreeBelow w f o → Nested w f o → ∀ x ∈ w.below f o, x ≠ o →
    SingleLink (w.lnk (w.op x).link) ∧ ∀ y ∈ (w.lnk (w.op x).link).refs, y ∈ w.below f o := by
  intro f
  induction f with
  | zero => intro o h; exact h.elim
  | succ f ih =>
    intro o ht hn x hx hxo
    obtain ⟨hc, n, hnk, hxn⟩ := mem_below_cases hx hxo
    obtain ⟨h1, h2, h3⟩ := hn hc n hnk
    by_cases hxn' : x = n
    · subst hxn'
      exact ⟨h1, fun y hy => below_kid w f o y y hc (h2 y hy) (ht.kid hc (h2 y hy)).self_mem⟩
    · obtain ⟨k1, k2⟩ := ih n (ht.kid hc hnk) h3 x hxn hxn'
      exact ⟨k1, fun y hy => below_kid w f o n y hc hnk (k2 y hy)⟩

theorem nested_single {w : World} {f o : Nat} (ht : TreeBelow w f o) (hn : Nested w f o) : SingleUnder w f o :=
  fun x hx hxo => (nested_below w f o ht hn x hx hxo).1

theorem singleUnder_kid {w : World} {f o n : Nat} (ht : TreeBelow w (f + 1) o) (hc : (w.op o).isComp = true)
    (hs : SingleUnder w (f + 1) o) (hn : n ∈ w.kids o) :
    SingleLink (w.lnk (w.op n).link) ∧ SingleUnder w f n := by
  have hno : ∀ j ∈ w.below f n, j ≠ o := fun j hj hjo => ht.not_below_kid hc hn (hjo ▸ hj)
  refine ⟨hs n (below_kid w f o n n hc hn (ht.kid hc hn).self_mem) (hno n (ht.kid hc hn).self_mem), ?_⟩
  intro j hj _
  exact hs j (below_kid w f o n j hc hn hj) (hno j hj)

/-! ### these predicates read the objects below (the root up to its link) and the links of those strictly below -/

theorem singleUnder_congr {w w' : World} {f o : Nat}
    (h1 : ∀ j ∈ w.below f o, (w'.op j).noLink = (w.op j).noLink)
    (h2 : ∀ j ∈ w.below f o, j ≠ o → w'.lnk (w'.op j).link = w.lnk (w.op j).link)
    (hs : SingleUnder w f o) : SingleUnder w' f o := by
  intro j hj hjo
  rw [below_congr w w' f o h1] at hj
  rw [h2 j hj hjo]
  exact hs j hj hjo

theorem nested_congr (w w' : World) : ∀ (f o : Nat), TreeBelow w f o →
    (∀ j ∈ w.below f o, (w'.op j).noLink = (w.op j).noLink) →
    (∀ j ∈ w.below f o, j ≠ o → w'.lnk (w'.op j).link = w.lnk (w.op j).link) →
    Nested w f o → Nested w' f o := by
  intro f
  induction f with
  | zero => intro o h; exact h.elim
  | succ f ih =>
    intro o ht h1 h2 hn hc'
    have ho := h1 o (self_mem_below w f o)
    have hc : (w.op o).isComp = true := by rw [← noLink_isComp ho]; exact hc'
    have hk : w'.kids o = w.kids o := kids_of_noLink ho
    rw [hk]
    intro n hnk
    obtain ⟨a1, a2, a3⟩ := hn hc n hnk
    have hnb : n ∈ w.below (f + 1) o := below_kid w f o n n hc hnk (ht.kid hc hnk).self_mem
    have hno : ∀ j ∈ w.below f n, j ≠ o := fun j hj hjo => ht.not_below_kid hc hnk (hjo ▸ hj)
    rw [h2 n hnb (hno n (ht.kid hc hnk).self_mem)]
    refine ⟨a1, a2, ih n (ht.kid hc hnk) (fun j hj => h1 j (below_kid w f o n j hc hnk hj)) ?_ a3⟩
    intro j hj _
    exact h2 j (below_kid w f o n j hc hnk hj) (hno j hj)

theorem singleUnder_frame {w w' : World} {f o : Nat} (hc : Closed w) (hl : LinksExt w w')
    (hop : ∀ j ∈ w.below f o, w'.op j = w.op j) (hs : SingleUnder w f o) : SingleUnder w' f o :=
  singleUnder_congr (fun j hj => op_eq_noLink (hop j hj)) (fun j hj _ => lnk_frame hc hl (hop j hj)) hs

theorem nested_frame {w w' : World} {f o : Nat} (ht : TreeBelow w f o) (hc : Closed w) (hl : LinksExt w w')
    (hop : ∀ j ∈ w.below f o, w'.op j = w.op j) (hn : Nested w f o) : Nested w' f o :=
  nested_congr w w' f o ht (fun j hj => op_eq_noLink (hop j hj)) (fun j hj _ => lnk_frame hc hl (hop j hj)) hn

theorem add_link_single {w : World} (hc : Closed w) (c o : Nat) (hs : SingleLink (w.lnk (w.op o).link)) :
    SingleLink ((w.add c o).lnk ((w.add c o).op o).link) := by
  rw [add_lnk_link]
  rcases addToGraph_link_cases w (w.op c).graph o hc.link with h | h
  · rw [h]; exact hs
  · exact h

/-- after `add c o` the references of a plain link of `o` are nodes of `c` (as it was before the `add`). -/
theorem add_refs_single {w : World} (hc : Closed w) (c o : Nat) (ho : o < w.ops.size)
    (hs : SingleLink (w.lnk (w.op o).link)) :
    ∀ r ∈ ((w.add c o).lnk ((w.add c o).op o).link).refs, r ∈ w.kids c := by
  intro r hr
  rw [add_lnk_link] at hr
  exact (listing_perm _).mem_iff.mp ((addToGraph_linkStep w (w.op c).graph o hc.link).refs_o_single ho hs r hr)

theorem add_link_other {w : World} (hc : Closed w) (c o j : Nat) (hjo : j ≠ o) :
    ((w.add c o).op j).link = (w.op j).link := by
  rw [add_eq_setGraph, World.link_setGraph, (addToGraph_linkStep w (w.op c).graph o hc.link).op_other j hjo]

theorem depthOk_of_tree (w : World) : ∀ (f o g : Nat), TreeBelow w f o → f ≤ g → depthOk w g o := by
  intro f
  induction f with
  | zero => intro o g h _; exact h.elim
  | succ f ih =>
    intro o g ht hg
    cases g with
    | zero => omega
    | succ g =>
      unfold depthOk
      intro hc n hn
      exact ih n g (ht.kid hc ((listing_perm _).mem_iff.mp hn)) (by omega)

structure FreshPost (w : World) (B f o : Nat) (r : World × Nat × Lookup) : Prop where
  deps : ∀ x y, w.ops.size ≤ x → x < r.1.ops.size → Dep r.1 x y → B ≤ y
  nested : Nested r.1 f r.2.1
  rootlink : SingleLink (w.lnk (w.op o).link) → SingleLink (r.1.lnk (r.1.op r.2.1).link)

/-- loop invariant of the walk (next to `Defined.LoopInv` and `TreeCopyInv`): `res` is the new composite, `L0` its
    link. -/
structure WInv (w0 : World) (B res f : Nat) (L0 : Link) (wi : World) : Prop where
  deps : ∀ x y, w0.ops.size ≤ x → x < wi.ops.size → Dep wi x y → B ≤ y
  kids : ∀ n ∈ wi.kids res, SingleLink (wi.lnk (wi.op n).link) ∧
    (∀ y ∈ (wi.lnk (wi.op n).link).refs, y ∈ wi.kids res) ∧ Nested wi f n
  reslink : wi.lnk (wi.op res).link = L0

/-- `r` is the result of copying the node `n`, `v` the heap `r.1` up to the collision counter. -/
theorem walk_step {w0 : World} {lk0 : Lookup} {B res f : Nat} {rep : Rep} {L0 : Link} {wi : World} {lki : Lookup}
    {done : List Nat} {n : Nat} {r : World × Nat × Lookup} {v : World} (hc0 : Closed w0)
    (hB : B ≤ w0.ops.size) (hL : LoopInv w0 lk0 res wi lki) (hT : TreeCopyInv w0 res f rep wi done)
    (hW : WInv w0 B res f L0 wi) (hn : TreeBelow w0 f n) (hns : SingleLink (w0.lnk (w0.op n).link))
    (post : CopyPost wi lki r) (tcs : TreeCopySpec wi f n r.1 r.2.1) (fp : FreshPost wi B f n r) (hv : Same v r.1) :
    WInv w0 B res f L0 (v.add res r.2.1) := by
  have hcv : Closed v := hv.closed post.closed
  have hopv : ∀ x, v.op x = r.1.op x := fun x => World.op_of_ops_eq hv.1 x
  have hszv : v.ops.size = r.1.ops.size := by rw [hv.1]
  have hsz : (v.add res r.2.1).ops.size = r.1.ops.size := by rw [add_size hcv, hszv]
  have hresi := hL.res_lt
  have hsz_le := post.size_le
  have hid := tcs.id
  have hresv : res < v.ops.size := by omega
  have hresop : v.op res = wi.op res := (hopv res).trans (post.op_old res hresi)
  have hK : v.kids res = wi.kids res := by unfold World.kids; rw [hresop]
  have hkids : (v.add res r.2.1).kids res = wi.kids res ++ [r.2.1] := by rw [add_kids v res _ hresv, hK]
  -- links: wi ⊑ r.1 = v ⊑ v.add
  have hle_r : LinksExt r.1 (v.add res r.2.1) := (LinksExt.of_eq hv.2).trans (add_linksExt hcv res r.2.1)
  have hle_wi : LinksExt wi (v.add res r.2.1) := LinksExt.trans ⟨post.lsize_le, post.lnk_old⟩ hle_r
  -- `add` writes `res` and the new root only
  have hnew : ∀ j, j ≠ r.2.1 → j ≠ res → (v.add res r.2.1).op j = r.1.op j := by
    intro j h1 h2
    rw [add_op_other v res r.2.1 j h2 h1, hopv]
  have hold : ∀ j, j < wi.ops.size → j ≠ res → (v.add res r.2.1).op j = wi.op j := by
    intro j hj hjr
    rw [hnew j (by omega) hjr, post.op_old j hj]
  refine ⟨?_, ?_, ?_⟩
  · intro x y hx hxlt hxy
    rw [hsz] at hxlt
    rcases dep_add hcv res r.2.1 hxy with hd | ⟨_, e, he, rfl⟩ | ⟨_, rfl⟩
    · have hd2 : Dep r.1 x y := (hv.dep x y).mp hd
      by_cases hxi : x < wi.ops.size
      · exact hW.deps x y hx hxi (dep_old hL.closed post.op_old post.lnk_old hxi hd2)
      · exact fp.deps x y (by omega) hxlt hd2
    · rw [hresop] at he
      have := hL.res_nodes e he
      omega
    · have := hL.size_le; omega
  · intro m hm
    rw [hkids] at hm ⊢
    rcases List.mem_append.mp hm with hm | hm
    · obtain ⟨k1, k2, k3⟩ := hW.kids m hm
      have hmt : TreeBelow wi f m := hT.forest.tree m hm
      have hframe : ∀ j ∈ wi.below f m, (v.add res r.2.1).op j = wi.op j := by
        intro j hj
        have h1 := below_lt wi f m hmt j hj
        have h2 := hT.range m hm j hj
        exact hold j h1 (by omega)
      rw [lnk_frame hL.closed hle_wi (hframe m hmt.self_mem)]
      exact ⟨k1, fun y hy => List.mem_append_left _ (k2 y hy), nested_frame hmt hL.closed hle_wi hframe k3⟩
    · simp only [List.mem_singleton] at hm
      subst hm
      have hsrc : SingleLink (wi.lnk (wi.op n).link) := by
        rw [lnk_frame hc0 ⟨hL.lsize_le, hL.lnk_old⟩ (hL.op_old n hn.lt)]; exact hns
      have hsv : SingleLink (v.lnk (v.op r.2.1).link) := by
        rw [hopv, World.lnk_of_links_eq hv.2]; exact fp.rootlink hsrc
      refine ⟨add_link_single hcv res _ hsv, ?_, ?_⟩
      · intro y hy
        have := post.new_lt
        have := add_refs_single hcv res r.2.1 (by omega) hsv y hy
        rw [hK] at this
        exact List.mem_append_left _ this
      · have hfr : ∀ j ∈ r.1.below f r.2.1, j ≠ res := by
          intro j hj
          have := tcs.fresh j hj
          omega
        apply nested_congr r.1 _ f _ tcs.tree _ _ fp.nested
        · intro j hj
          rw [(add_spec v res r.2.1 hresv).2.2.2.2.2 j (hfr j hj), hopv]
        · intro j hj hjm
          exact lnk_frame post.closed hle_r (hnew j hjm (hfr j hj))
  · rw [add_link_other hcv res r.2.1 res (by omega), hresop, hle_wi.lnk_old _ (hL.closed.link res)]
    exact hW.reslink

/-- the copy loop of a composite keeps the three invariants, given `FreshPost` for the copies of the nodes. -/
theorem walk_fold {w0 : World} {lk0 : Lookup} {B res f g : Nat} {rep : Rep} {L0 : Link} (hres : res = w0.ops.size)
    (hc0 : Closed w0) (hB : B ≤ w0.ops.size) (hlk0 : ∀ p ∈ lk0, B ≤ p.2) (hfg : f ≤ g)
    (ihF : ∀ (w : World) (o : Nat) (lk : Lookup), TreeBelow w f o → Closed w → Acyclic w → LkOk w lk →
      B ≤ w.ops.size → (∀ p ∈ lk, B ≤ p.2) → SingleUnder w f o → FreshPost w B f o (w.copyObj g o lk))
    (Ns : List Nat) (hN : ∀ n ∈ Ns, TreeBelow w0 f n ∧ SingleLink (w0.lnk (w0.op n).link) ∧ SingleUnder w0 f n)
    (acc : World × Lookup) (hL : LoopInv w0 lk0 res acc.1 acc.2) (hT : TreeCopyInv w0 res f rep acc.1 [])
    (hW : WInv w0 B res f L0 acc.1) : WInv w0 B res f L0 (Ns.foldl (cpStep g res) acc).1 := by
  refine (foldl_inv_rest (fun rest (a : World × Lookup) =>
      (∀ n ∈ rest, TreeBelow w0 f n ∧ SingleLink (w0.lnk (w0.op n).link) ∧ SingleUnder w0 f n) ∧
      LoopInv w0 lk0 res a.1 a.2 ∧ (∃ done, TreeCopyInv w0 res f rep a.1 done) ∧ WInv w0 B res f L0 a.1)
    (cpStep g res) ?_ Ns acc ⟨hN, hL, ⟨[], hT⟩, hW⟩).2.2.2
  rintro ⟨wi, lki⟩ n rest ⟨hN, hL, ⟨done, hT⟩, hW⟩
  simp only at hL hT hW
  obtain ⟨hn, hns, hnu⟩ := hN n List.mem_cons_self
  -- the node `n` and what is below it is as in `w0`
  have hnold : ∀ j ∈ w0.below f n, wi.op j = w0.op j :=
    fun j hj => hT.old j (hres ▸ below_lt w0 f n hn j hj)
  have hni : TreeBelow wi f n := tree_congr w0 wi (by rw [← hres]; exact Nat.le_of_lt hT.size) f n hn
    (fun j hj => op_eq_noLink (hnold j hj))
  have hnui : SingleUnder wi f n := singleUnder_frame hc0 ⟨hL.lsize_le, hL.lnk_old⟩ hnold hnu
  have hlki : ∀ p ∈ lki, B ≤ p.2 := by
    intro p hp
    rcases hL.lk_vals p hp with ⟨q, hq, hqp⟩ | hge
    · rw [← hqp]; exact hlk0 q hq
    · omega
  have post := copyObj_post g wi n lki hL.closed hL.acyclic hL.lk_ok hni.lt (depthOk_of_tree wi f n g hni hfg)
  have tcs := copyObj_tree f wi n lki g hni hfg
  have fp := ihF wi n lki hni hL.closed hL.acyclic hL.lk_ok (Nat.le_trans hB hL.size_le) hlki hnui
  obtain ⟨v, hv, hv1, hv2, hv3⟩ := cpStep_fst g res (wi, lki) n
  refine ⟨fun m hm => hN m (List.mem_cons_of_mem _ hm), loop_step hL post, ?_, ?_⟩
  · rw [hv]
    exact ⟨done ++ [n], copyInv_step w0 res f rep wi done n hres hT hn _ _ tcs v hv1 hv3⟩
  · rw [hv]
    exact walk_step hc0 hB hL hT hW hn hns post tcs fp ⟨hv1, hv2⟩

/-- the copy of a tree without group links (any lookup with values `≥ B`, any fuel `≥ f`): every new object depends
    on objects `≥ B` only, the copy is `Nested`, and the link of the new root is plain if the link of `o` is. -/
theorem copyObj_fresh : ∀ (f : Nat) (w : World) (o : Nat) (lk : Lookup) (g B : Nat), TreeBelow w f o → f ≤ g →
    Closed w → Acyclic w → LkOk w lk → B ≤ w.ops.size → (∀ p ∈ lk, B ≤ p.2) → SingleUnder w f o →
    FreshPost w B f o (w.copyObj g o lk) := by
  intro f
  induction f with
  | zero => intro w o lk g B h; exact h.elim
  | succ f ih =>
    intro w o lk g B ht hg hc ha hlk hB hlkB hsu
    cases g with
    | zero => omega
    | succ g =>
      obtain ⟨w1, L, hs, hL, hLs, hcl⟩ := copyLink_spec w (w.op o).link lk
      have hsz1 : (w1.newLink L).1.ops.size = w.ops.size := by show w1.ops.size = _; rw [hs.1]
      have hrr1 : w1.rreg = w.rreg := by
        have := copyLink_rreg w (w.op o).link lk
        rw [hcl] at this
        exact this
      -- both cases allocate `L` and one object `op` that carries it: its only edges are the references of `L`
      have alloc : ∀ (op : Op) (wn : World), wn = ((w1.newLink L).1.newOp op).1 → op.link = (w1.newLink L).2 →
          op.graph = [] → AllocSpec w lk op wn ∧ wn.rreg = w.rreg ∧ wn.lnk (wn.op w.ops.size).link = L ∧
            ∀ x y, w.ops.size ≤ x → x < wn.ops.size → Dep wn x y → B ≤ y := by
        intro op wn hwn hopl hopg
        have al := alloc_spec hs hc ha hlk L hL op hopl hopg (fun h => hLs (h _))
        rw [← hwn] at al
        have hlnk : wn.lnk (wn.op w.ops.size).link = L := by
          rw [al.op_new, hopl, hwn]; exact w1.lnk_newLink_new L
        refine ⟨al, by rw [hwn]; exact hrr1, hlnk, ?_⟩
        intro x y hx hxlt hxy
        rw [al.size] at hxlt
        have hxe : x = w.ops.size := by omega
        subst hxe
        rcases hxy with h | ⟨_, e, he, _⟩
        · rw [hlnk] at h
          obtain ⟨p, hp, rfl⟩ := hL y h
          exact hlkB p hp
        · rw [al.op_new, hopg] at he; cases he
      by_cases hcomp : (w.op o).isComp = true
      · rw [copyObj_comp' w g o lk hcomp, hcl, hsz1]
        obtain ⟨wn, hwn⟩ : ∃ wn, wn = ((w1.newLink L).1.newOp
          { cls := .comp, link := (w1.newLink L).2, rep := (w.op o).rep }).1 := ⟨_, rfl⟩
        rw [← hwn]
        obtain ⟨al, hrr, hlnk, hd⟩ := alloc _ wn hwn rfl rfl
        have hnokids : wn.kids w.ops.size = [] := by unfold World.kids; rw [al.op_new]; rfl
        have inv0 : LoopInv w lk w.ops.size wn lk := LoopInv.of_alloc al hlk rfl rfl
        have base : TreeCopyInv w w.ops.size f (w.op o).rep wn [] := by
          refine ⟨by rw [al.size]; omega, al.op_old, hrr, by rw [al.op_new]; rfl, by rw [al.op_new], ?_, ?_, ?_, ?_⟩
          · rw [hnokids]; exact Forest.nil _ _
          · intro n hn; rw [hnokids] at hn; cases hn
          · rw [hnokids]; exact List.Perm.refl _
          · intro cnt; rw [hnokids]; exact List.Perm.refl _
        have wbase : WInv w B w.ops.size f L wn := ⟨hd, fun n hn => absurd hn (by rw [hnokids]; exact List.not_mem_nil), hlnk⟩
        have hN : ∀ n ∈ listing (w.op o).graph,
            TreeBelow w f n ∧ SingleLink (w.lnk (w.op n).link) ∧ SingleUnder w f n := by
          intro n hn
          have hk : n ∈ w.kids o := (listing_perm _).mem_iff.mp hn
          exact ⟨ht.kid hcomp hk, (singleUnder_kid ht hcomp hsu hk).1, (singleUnder_kid ht hcomp hsu hk).2⟩
        have fin := walk_fold (rep := (w.op o).rep) rfl hc hB hlkB (by omega : f ≤ g)
          (fun w' o' lk' h1 h2 h3 h4 h5 h6 h7 => ih w' o' lk' g B h1 (by omega) h2 h3 h4 h5 h6 h7)
          (listing (w.op o).graph) hN (wn, lk) inv0 base wbase
        exact ⟨fin.deps, fun _ => fin.kids, fun hsrc => (congrArg SingleLink fin.reslink).mpr (hLs hsrc)⟩
      · have hleaf : (w.op o).isComp = false := by simpa using hcomp
        have tcs := copyObj_tree (f + 1) w o lk (g + 1) ht hg
        rw [copyObj_leaf w g o lk hleaf] at tcs ⊢
        obtain ⟨op, hopl, hopg, hcl''⟩ := copyLeaf_of_copyLink w o lk hcl
        rw [hcl''] at tcs ⊢
        obtain ⟨_, _, hlnk, hd⟩ := alloc op _ rfl hopl hopg
        have hnewid : ((w1.newLink L).1.newOp op).2 = w.ops.size := hsz1
        rw [hnewid] at tcs ⊢
        exact ⟨hd, nested_leaf _ _ _ (tcs.kind.trans hleaf), fun hsrc => (congrArg SingleLink hlnk).mpr (hLs hsrc)⟩

theorem copy_linksExt {w : World} (hc : Closed w) (ha : Acyclic w) (o : Nat) (ho : o < w.ops.size) :
    LinksExt w (w.copy o).1 := by
  have post := copyObj_post w.depthFuel w o [] hc ha (fun p hp => by cases hp) ho (depthOk_depthFuel hc ha o)
  unfold World.copy
  exact ⟨post.lsize_le, post.lnk_old⟩

/-- `copy()` of a tree without group links (empty lookup, fuel `depthFuel`): the new objects form a `Nested`
    component of their own. -/
theorem copy_fresh {w : World} {f o : Nat} (ht : TreeBelow w f o) (hf : f ≤ w.depthFuel) (hc : Closed w)
    (ha : Acyclic w) (hsu : SingleUnder w f o) :
    (∀ x y, w.ops.size ≤ x → x < (w.copy o).1.ops.size → Dep (w.copy o).1 x y → w.ops.size ≤ y) ∧
    Nested (w.copy o).1 f (w.copy o).2 := by
  have fp := copyObj_fresh f w o [] w.depthFuel w.ops.size ht hf hc ha (fun p hp => by cases hp) (Nat.le_refl _)
    (fun p hp => by cases hp) hsu
  unfold World.copy
  exact ⟨fp.deps, fp.nested⟩

end Qco.DefinedUnroll
