import QcoVerif.Lemmas.PyBridge
import QcoVerif.Model.Timing
import QcoVerif.Model.Ident
/-
  `self` objects and environments for the ties of C01 — `RelationLink.get_start_time`, `MultiRelationLink.reference_node /
  get_start_time` (structure/intrf_circuit_operation.py), with the loop of `reference_node` — and of C19 —
  `ChannelIdentifier.__eq__` (same file), `EdgeIDObj.contains / __eq__` (connectivity/intrf_channel_identifier.py).
  The theorems are in Properties/C01Src.lean and C19Src.lean.  Core Lean only.
-/
namespace Qco.TimingSrc
open Qco Qco.Py

def relVal : Rel → Val
  | .fb => .enum "RelationType" "FOLLOWED_BY"
  | .js => .enum "RelationType" "JOINED_START"
  | .je => .enum "RelationType" "JOINED_END"

/-- a referenced operation: identity `n`, start and end as the evaluator reports them. -/
def nodeObj (n : Nat) (s e : Int) : Val := .obj "ICircuitOperation" n [("start_time", .int s), ("end_time", .int e)]

/-- `reference_node` of a link: `None` or the operation. -/
def refVal : Option (Nat × Int × Int) → Val
  | none => .none
  | some (n, s, e) => nodeObj n s e

@[py_eval] theorem refVal_isErr (ref : Option (Nat × Int × Int)) : (refVal ref).isErr = false := by
  rcases ref with _ | ⟨n, s, e⟩ <;> rfl

@[py_eval] theorem relVal_isErr (rel : Rel) : (relVal rel).isErr = false := by cases rel <;> rfl

/-- `self` of a `RelationLink`. -/
def linkSelf (rel : Rel) (ref : Option (Nat × Int × Int)) : Val :=
  .obj "RelationLink" 0 [("reference_node", refVal ref), ("_relation_type", relVal rel)]

/-- `self` of a `MultiRelationLink`: the group as (identity, end time) pairs (start irrelevant for the choice). -/
def multiSelf (rel : Rel) (refs : List (Nat × Int)) : Val :=
  .obj "MultiRelationLink" 0
    [("_reference_nodes", .list (refs.map (fun p => nodeObj p.1 0 p.2))), ("relation_type", relVal rel)]

def chanVal : Chan → Val
  | .ro => .enum "QubitChannel" "READOUT"
  | .mw => .enum "QubitChannel" "MICROWAVE"
  | .fl => .enum "QubitChannel" "FLUX"
  | .all => .enum "QubitChannel" "ALL"

@[py_eval] theorem chanVal_beq (a b : Chan) : Val.beq (chanVal a) (chanVal b) = (a == b) := by
  cases a <;> cases b <;> decide

@[py_eval] theorem chanVal_beq_all (a : Chan) : Val.beq (chanVal a) (.enum "QubitChannel" "ALL") = (a == .all) :=
  chanVal_beq a .all

@[py_eval] theorem chanVal_isErr (a : Chan) : (chanVal a).isErr = false := by cases a <;> rfl

def chIdObj (ident : Nat) (a : ChId) : Val :=
  .obj "ChannelIdentifier" ident [("id", .int a.q), ("channel", chanVal a.c)]

/-- `isinstance(x, C)` by class name (the objects of this file have no subclasses but `EdgeIDObj ≤ IEdgeID`). -/
def classEnv : Env :=
  { func := fun f args => match f, args with
      | "isinstance", [.obj c _ _, .str want] => some (.bool (c == want || (c == "EdgeIDObj" && want == "IEdgeID")))
      | "isinstance", [_, .str _] => some (.bool false)
      | _, _ => Option.none }

def qidVal (q : QubitId) : Val := .str q.name

/-- an `EdgeIDObj`; `contains()` answers for the two qubits of `self` are supplied by the method hook below. -/
def edgeObj (ident : Nat) (e : EdgeId) : Val :=
  .obj "EdgeIDObj" ident [("qubit_id0", qidVal e.q0), ("qubit_id1", qidVal e.q1)]

def decodeEdge (fs : List (String × Val)) : Option EdgeId :=
  match lookupField fs "qubit_id0", lookupField fs "qubit_id1" with
  | some (.str a), some (.str b) => some ⟨⟨a⟩, ⟨b⟩⟩
  | _, _ => Option.none

/-- `other.contains(q)` is answered by the MODEL's `EdgeId.contains` on the decoded receiver (the source of `contains`
    itself is tied by `edge_contains_matches_source`). -/
def edgeEnv : Env :=
  { classEnv with
    method := fun recv m args => match recv, m, args with
      | .obj "EdgeIDObj" _ fs, "contains", [.str q] => (decodeEdge fs).map (fun e => Val.bool (e.contains ⟨q⟩))
      | _, _, _ => Option.none }

def encNode (p : Nat × Int) : Val := nodeObj p.1 0 p.2

/-- the loop of `MultiRelationLink.reference_node`: `latest_node` follows `pickLatest`. -/
theorem latest_loop (body : List Stmt)
    (hbody : body = [.ifs (.cmp .gt (.attr (.name "node") "end_time") (.attr (.name "latest_node") "end_time"))
        [.assign "latest_node" (.name "node")] []]) :
    ∀ (l : List (Nat × Int)) (vs : Vars) (b : Nat × Int), vs.get "latest_node" = encNode b →
      ∃ vs', forLoop (fun vs' v => execBlock {} (vs'.set "node" v) body) (l.map encNode) vs = .cont vs' ∧
        vs'.get "latest_node" = encNode (l.foldl (fun b x => if x.2 > b.2 then x else b) b) := by
  subst hbody
  intro l vs b h
  refine forLoop_inv _ encNode
    (fun done vs => vs.get "latest_node" = encNode (done.foldl (fun b x => if x.2 > b.2 then x else b) b)) ?_ l vs h
  intro done x vs h
  -- one round: the test is `x.2 >` the end of the latest so far
  py_simp [h, encNode, nodeObj]
  split <;> simp [*]

/-- environment of `MultiRelationLink.get_start_time`: the constructor call `RelationLink(reference_node, relation_type)`
    builds the object `linkSelf`-style, and its `get_start_time(duration)` is answered by the MODEL's `linkStart` on the decoded
    fields (the source of that method is tied by `relation_link_start_matches_source`). -/
def multiEnv : Env :=
  { func := fun f args => match f, args with
      | "RelationLink", [.tuple [.str "_reference_node", r], .tuple [.str "_relation_type", t]] =>
          some (.obj "RelationLink" 99 [("reference_node", r), ("_relation_type", t)])
      | _, _ => Option.none
    method := fun recv m args => match recv, m, args with
      | .obj "RelationLink" _ [("reference_node", r), ("_relation_type", t)], "get_start_time", [.int d] =>
          (match t with
           | .enum "RelationType" "FOLLOWED_BY" => some Rel.fb
           | .enum "RelationType" "JOINED_START" => some Rel.js
           | .enum "RelationType" "JOINED_END" => some Rel.je
           | _ => Option.none).bind (fun rel =>
            match r with
            | .none => some (.int (linkStart rel Option.none d))
            | .obj _ _ [("start_time", .int s), ("end_time", .int e)] => some (.int (linkStart rel (some (s, e)) d))
            | _ => Option.none)
      | _, _, _ => Option.none }

@[py_eval] theorem builtin_RelationLink (args : List Val) : builtin "RelationLink" args = none :=
  builtin_none _ _ (by simp [builtinNames])

/-- the two hooks of `multiEnv` on the values the source hands them. -/
@[py_eval] theorem multiEnv_link (r t : Val) :
    multiEnv.func "RelationLink" [.tuple [.str "_reference_node", r], .tuple [.str "_relation_type", t]] =
      some (.obj "RelationLink" 99 [("reference_node", r), ("_relation_type", t)]) := rfl

@[py_eval] theorem multiEnv_start (rel : Rel) (ref : Option (Nat × Int × Int)) (k : Nat) (d : Int) :
    multiEnv.method (.obj "RelationLink" k [("reference_node", refVal ref), ("_relation_type", relVal rel)])
        "get_start_time" [.int d] =
      some (.int (linkStart rel (ref.map (fun r => (r.2.1, r.2.2))) d)) := by
  cases rel <;> rcases ref with _ | ⟨n, s, e⟩ <;> rfl

/-- `self` of a `MultiRelationLink` whose `reference_node` property has the model's value (`pickLatest`). -/
def multiSelfR (rel : Rel) (ref : Option (Nat × Int × Int)) : Val :=
  .obj "MultiRelationLink" 0 [("reference_node", refVal ref), ("relation_type", relVal rel)]

end Qco.TimingSrc
