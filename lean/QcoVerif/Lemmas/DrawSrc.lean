import QcoVerif.Model.Draw
import QcoVerif.Lemmas.PyBridge
/-
  C18 — source tie of `reorder_indices` (visualization/visualize_circuit/display_circuit.py): the translated text evaluates,
  for ALL lists of qubit indices, to `Draw.reorder`.  Core Lean only.
-/
namespace Qco.DrawSrc
open Qco Qco.Py Qco.Gen.PySrc

theorem filter_notin (orig order : List Int) :
    List.filter (fun v => !memVal v (List.map Val.int order)) (List.map Val.int orig)
      = List.map Val.int (List.filter (fun x => !decide (x ∈ order)) orig) := by
  induction orig with
  | nil => rfl
  | cons a as ih =>
    simp only [List.map_cons, List.filter_cons, ih, memVal_ints]
    cases decide (a ∈ order) <;> simp

/-- `reorder_indices(original_order, specific_order)` as written in the source = `Draw.reorder`;
    `ValueError` exactly where the model rejects. -/
theorem reorder_matches_source (orig order : List Int) :
    callFn {} Draw_reorder_indices [ints orig, ints order] =
      (match Draw.reorder orig order with
       | some r => ints r
       | none => .err "raised: ValueError") := by
  py_simp [Draw_reorder_indices, Function.comp_def, all_truthy_bool, Draw.reorder]
  rw [filter_notin]
  by_cases h : ∀ x, x ∈ order → x ∈ orig
  · have h' : ¬ ∃ x, x ∈ order ∧ ¬ x ∈ orig := by simpa using h
    rw [if_neg h', if_pos h]; simp
  · have h' : ∃ x, x ∈ order ∧ ¬ x ∈ orig := by simpa using h
    rw [if_pos h', if_neg h]

end Qco.DrawSrc
