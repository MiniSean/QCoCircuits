import QcoVerif.Lemmas.CopyFlat
/-
  Non-vacuity of the hypotheses of the flat copy theorem (`FlatOk`): a block of four leaf operations on two qubits with
  one explicit JOINED_START relation, built by the model's own `newCircuit / newLink / newOp / add` (the calls the driver
  makes for `new` and `op` lines), under the real semantics (`identKeys := false`).  The heap is evaluated step by step
  (the merge-sort based `listing` does not reduce in the kernel, so each `add` is evaluated through `listing_of_sorted`).
  Core Lean only.
-/
namespace Qco

theorem listing_lit (g : List Entry) (h : decide (g.Pairwise (fun a b => entryLe a b = true)) = true) :
    listing g = g.map (·.node) := listing_of_sorted g (of_decide_eq_true h)

theorem sortedEntries_lit (g : List Entry) (h : decide (g.Pairwise (fun a b => entryLe a b = true)) = true) :
    sortedEntries g = g := List.mergeSort_of_pairwise (of_decide_eq_true h)

/-- `get_leaf_at_any` on a graph literal stored in listing order: a search through the stored entries, which the kernel
    evaluates. -/
theorem leafAtAny_lit (w : World) (g : List Entry) (chs : List ChId)
    (h : decide (g.Pairwise (fun a b => entryLe a b = true)) = true) :
    w.leafAtAny g chs =
      (g.map (·.node)).reverse.find? (fun n => chs.any (fun a => (w.chansOf n).any (fun b => a.matches b))) := by
  unfold World.leafAtAny
  rw [listing_lit g h]

/-- `c = DeclarativeCircuit(); a = Rx180(0); c.add(a)` — `a` becomes a depth-1 node. -/
def exBuild1 : World :=
  let w0 : World := {}
  let (w, c) := w0.newCircuit (.fixed 1)
  let (w, l1) := w.newLink {}
  let (w, a) := w.newOp { cls := .rx180, qs := [0], dur := .glob .mw, link := l1 }
  w.add c a

/-- `b = Rx90(1); c.add(b)` — no shared channel: a second depth-1 node. -/
def exBuild2 : World :=
  let w := exBuild1
  let (w, l2) := w.newLink {}
  let (w, b) := w.newOp { cls := .rx90, qs := [1], dur := .glob .mw, link := l2 }
  w.add 0 b

/-- `d = DispersiveMeasure(1, relation=RelationLink(a, JOINED_START)); c.add(d)` — hangs under `a` by its explicit relation. -/
def exBuild3 : World :=
  let w := exBuild2
  let (w, l3) := w.newLink { refs := [1], rel := .js }
  let (w, d) := w.newOp { cls := .measure, qs := [1], dur := .glob .ro, link := l3 }
  w.add 0 d

/-- `e = Ry180(0); c.add(e)` — no relation; `add` links it FOLLOWED_BY under `a`, the last node sharing a channel. -/
def exCopyWorld : World :=
  let w := exBuild3
  let (w, l4) := w.newLink {}
  let (w, e) := w.newOp { cls := .ry180, qs := [0], dur := .glob .mw, link := l4 }
  w.add 0 e

def exOpA : Op := { cls := .rx180, qs := [0], dur := .glob .mw, link := 1 }
def exOpB : Op := { cls := .rx90, qs := [1], dur := .glob .mw, link := 2 }
def exOpD : Op := { cls := .measure, qs := [1], dur := .glob .ro, link := 3 }

/-- the heap the build program produces. -/
def exCopyLit : World :=
  { ops := #[{ cls := .comp, graph := [⟨1, none, [0]⟩, ⟨2, none, [1]⟩, ⟨3, some 1, [0, 0]⟩, ⟨4, some 1, [0, 1]⟩] },
             exOpA, exOpB, exOpD, { cls := .ry180, qs := [0], dur := .glob .mw, link := 5 }],
    links := #[{}, {}, {}, { refs := [1], rel := .js }, {}, { refs := [1] }] }

def exS1 : World := { ops := #[{ cls := .comp }, exOpA], links := #[{}, {}] }
def exS1' : World := { ops := #[{ cls := .comp, graph := [⟨1, none, [0]⟩] }, exOpA], links := #[{}, {}] }
def exS2 : World := { ops := #[{ cls := .comp, graph := [⟨1, none, [0]⟩] }, exOpA, exOpB], links := #[{}, {}, {}] }
def exS2' : World :=
  { ops := #[{ cls := .comp, graph := [⟨1, none, [0]⟩, ⟨2, none, [1]⟩] }, exOpA, exOpB], links := #[{}, {}, {}] }
def exS3 : World :=
  { ops := #[{ cls := .comp, graph := [⟨1, none, [0]⟩, ⟨2, none, [1]⟩] }, exOpA, exOpB, exOpD],
    links := #[{}, {}, {}, { refs := [1], rel := .js }] }
def exS3' : World :=
  { ops := #[{ cls := .comp, graph := [⟨1, none, [0]⟩, ⟨2, none, [1]⟩, ⟨3, some 1, [0, 0]⟩] }, exOpA, exOpB, exOpD],
    links := #[{}, {}, {}, { refs := [1], rel := .js }] }
def exS4 : World :=
  { ops := #[{ cls := .comp, graph := [⟨1, none, [0]⟩, ⟨2, none, [1]⟩, ⟨3, some 1, [0, 0]⟩] }, exOpA, exOpB, exOpD,
             { cls := .ry180, qs := [0], dur := .glob .mw, link := 4 }],
    links := #[{}, {}, {}, { refs := [1], rel := .js }, {}] }

theorem exStep1 : exS1.add 0 1 = exS1' := by
  rw [add_root_eq exS1 0 1 (by decide) (by rw [leafAtAny_lit _ _ _ (by decide)]; decide)]
  rfl

theorem exStep2 : exS2.add 0 2 = exS2' := by
  rw [add_root_eq exS2 0 2 (by decide) (by rw [leafAtAny_lit _ _ _ (by decide)]; decide)]
  rfl

theorem exStep3 : exS3.add 0 3 = exS3' := by
  rw [add_child_eq exS3 0 3 1 (by decide) (by decide) (by decide) (by decide)]
  rfl

theorem exStep4 : exS4.add 0 4 = exCopyLit := by
  rw [add_relink_eq exS4 0 4 1 (by decide) (by rw [leafAtAny_lit _ _ _ (by decide)]; decide)]
  rfl

theorem exBuild1_eq : exBuild1 = exS1' := exStep1

theorem exBuild2_eq : exBuild2 = exS2' := by
  unfold exBuild2
  rw [exBuild1_eq]
  exact exStep2

theorem exBuild3_eq : exBuild3 = exS3' := by
  unfold exBuild3
  rw [exBuild2_eq]
  exact exStep3

theorem exCopyWorld_eq : exCopyWorld = exCopyLit := by
  unfold exCopyWorld
  rw [exBuild3_eq]
  exact exStep4

theorem exCopyLit_listing : listing (exCopyLit.op 0).graph = [1, 2, 3, 4] := by
  rw [listing_lit _ (by decide)]; rfl

/-- **the hypotheses H1–H4 hold for the example block** (real semantics: `identKeys = false`). -/
theorem exCopyLit_flatOk : FlatOk exCopyLit 0 := by
  refine ⟨by decide, ?_, ?_, ?_, ?_, ?_, ?_, ?_, ?_⟩
  · show Built (attach (attach (attach (attach [] none 1) none 2) (some 1) 3) (some 1) 4)
    apply built_attach
    · apply built_attach
      · apply built_attach
        · apply built_attach built_nil
          · intro q h; cases h
          · decide
        · intro q h; cases h
        · decide
      · intro q h; cases h; decide
      · decide
    · intro q h; cases h; decide
    · decide
  · rw [exCopyLit_listing]; decide
  · rw [exCopyLit_listing]; decide
  · rw [exCopyLit_listing]; decide
  · rw [exCopyLit_listing]; decide
  · intro e he p hp
    have he' : e ∈ [(⟨1, none, [0]⟩ : Entry), ⟨2, none, [1]⟩, ⟨3, some 1, [0, 0]⟩, ⟨4, some 1, [0, 1]⟩] := he
    simp only [List.mem_cons, List.mem_nil_iff, or_false] at he'
    rcases he' with rfl | rfl | rfl | rfl
    · cases hp
    · cases hp
    · cases hp; decide
    · cases hp; decide
  · intro e he hp r hr
    have he' : e ∈ [(⟨1, none, [0]⟩ : Entry), ⟨2, none, [1]⟩, ⟨3, some 1, [0, 0]⟩, ⟨4, some 1, [0, 1]⟩] := he
    simp only [List.mem_cons, List.mem_nil_iff, or_false] at he'
    rcases he' with rfl | rfl | rfl | rfl
    · have h0 : (exCopyLit.lnk (exCopyLit.op 1).link).refs.head? = none := by decide
      rw [h0] at hr; cases hr
    · have h0 : (exCopyLit.lnk (exCopyLit.op 2).link).refs.head? = none := by decide
      rw [h0] at hr; cases hr
    · cases hp
    · cases hp
  · unfold heads
    rw [sortedEntries_lit _ (by decide)]
    decide

theorem exCopyWorld_flatOk : FlatOk exCopyWorld 0 := by
  rw [exCopyWorld_eq]; exact exCopyLit_flatOk

theorem exCopyWorld_real : exCopyWorld.identKeys = false := by
  rw [exCopyWorld_eq]; rfl

end Qco
