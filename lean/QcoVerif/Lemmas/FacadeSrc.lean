import QcoVerif.Lemmas.BuilderSrc
/-
  Source ties of the FACADE `DeclarativeCircuit` (language/declarative_circuit.py): what it does around the structure when a
  sub-circuit is added, when modifiers are applied or the circuit is flattened.  (`add_operation` and `get_last_entry` are tied in
  Properties/C02Src.lean, which has its own copy of the objects of this file; `operations` and `duration` in C03Src.lean.)  The
  functions act on objects: their EFFECTS are stated (`Py.callEffects`), as for the builder (Lemmas/BuilderSrc.lean).  These are the
  steps the model driver performs for the commands `op`, `sub`, `apply`, `flatten` (Driver/Heap.lean): `add` of the operation itself;
  `copy` with the transfer table {sub-circuit ↦ own structure}, then `add` of the COPY, which is also what is returned; the SAME
  structure object modified in place and carried over, with the same list of added operations and the same acquisition registry,
  into a fresh wrapper.  Core Lean only.
-/
namespace Qco.FacadeSrc
open Qco Qco.Py Qco.Gen.PySrc Qco.BuilderSrc

def declObj (i : Nat) (st added reg : Val) : Val :=
  .obj "DeclarativeCircuit" i [("_structure", st), ("_added_operations", added), ("_acquisition_registry", reg),
                               ("nr_qubits", .int 0), ("circuit_structure", st), ("acquisition_registry", reg)]

def stObj (i : Nat) (extra : List (String × Val)) : Val := .obj "CircuitCompositeOperation" i extra
def addedObj : Val := .obj "list" 90 []
def regObj : Val := .obj "AcquisitionRegistry" 91 []

/-- **`add_sub_circuit`**: the sub-circuit is COPIED with the transfer table `{sub-circuit ↦ own structure}` (one entry, exactly this
    one), the COPY is added to the structure and recorded, and the copy is what is returned. -/
theorem add_sub_circuit_matches_source (cp : Val) (hcp : cp = .obj "CircuitCompositeOperation" 8 []) :
    let sub := Val.obj "CircuitCompositeOperation" 5 [("copy()", cp)]
    callEffects builderEnv Decl_add_sub_circuit [declObj 1 (stObj 2 []) addedObj regObj, sub] =
      [Val.tuple [.str "call", stObj 2 [], .str "add", cp],
       Val.tuple [.str "call", addedObj, .str "append", cp]] ∧
    callFn builderEnv Decl_add_sub_circuit [declObj 1 (stObj 2 []) addedObj regObj, sub] = cp := by
  subst hcp
  constructor <;> py_simp [Decl_add_sub_circuit, declObj, stObj, addedObj, pairUp]

/-- the transfer table `add_sub_circuit` hands to `copy`: one pair, sub-circuit ↦ own structure. -/
theorem add_sub_circuit_lookup (sub st : Val) :
    eval builderEnv (Vars.set (Vars.set [] "self" (declObj 1 st addedObj regObj)) "operation" sub)
      (.call "dict_of" [.name "operation", .attr (.name "self") "_structure"]) = .list [.tuple [sub, st]] := by
  py_simp [pairUp, declObj]

/-- **`apply_modifiers`**: the structure is modified IN PLACE (`apply_modifiers_to_self` is called on it and answers with the same
    object), and a fresh wrapper receives that structure, the SAME list of added operations and the SAME acquisition registry. -/
theorem apply_modifiers_matches_source :
    let st := stObj 2 [("apply_modifiers_to_self()", stObj 2 [])]
    let fresh := Val.tuple [.str "DeclarativeCircuit", .tuple [.str "nr_qubits", .int 0]]
    callEffects builderEnv Decl_apply_modifiers [declObj 1 st addedObj regObj] =
      [Val.tuple [.str "setattr", fresh, .str "_structure", stObj 2 []],
       Val.tuple [.str "setattr", fresh, .str "_added_operations", addedObj],
       Val.tuple [.str "setattr", fresh, .str "_acquisition_registry", regObj]] := by
  py_simp [Decl_apply_modifiers, declObj, stObj, addedObj, regObj]

/-- **`flatten`**: the same, with `apply_flatten_to_self`. -/
theorem flatten_matches_source :
    let st := stObj 2 [("apply_flatten_to_self()", stObj 2 [])]
    let fresh := Val.tuple [.str "DeclarativeCircuit", .tuple [.str "nr_qubits", .int 0]]
    callEffects builderEnv Decl_flatten [declObj 1 st addedObj regObj] =
      [Val.tuple [.str "setattr", fresh, .str "_structure", stObj 2 []],
       Val.tuple [.str "setattr", fresh, .str "_added_operations", addedObj],
       Val.tuple [.str "setattr", fresh, .str "_acquisition_registry", regObj]] := by
  py_simp [Decl_flatten, declObj, stObj, addedObj, regObj]

end Qco.FacadeSrc
