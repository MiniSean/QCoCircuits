import QcoVerif.Lemmas.RepChainRound
import QcoVerif.Lemmas.RepProtocol
/-
  C09, all chain lengths: `chainDesc n r` is well-formed and one round has its effect on the closed-form
  states, hence the per-description `Facts`, for every chain length.
-/
namespace Qco.RepChain
open Qco.StimSem Qco.RepCode

theorem chain_wf (m : Nat) (hm : 0 < m) (r : Bool) : (chainDesc (m + 1) r).wellFormed = true := by
  unfold Desc.wellFormed
  rw [chain_allIdx, chain_nbr, chain_ancIdx, chain_dataIdx, chain_layers m hm]
  simp only [Bool.and_eq_true, decide_eq_true_eq, List.all_eq_true, beq_iff_eq, List.length_map,
    List.length_range, ancL_length, List.contains_iff_mem, List.mem_range, List.mem_map, evenG, oddG]
  refine ⟨⟨⟨List.nodup_range, trivial⟩, ?_⟩, ?_⟩
  · rintro p ⟨j, hj, rfl⟩
    exact ⟨mem_dataL.mpr ⟨by omega, by omega⟩, mem_dataL.mpr ⟨by omega, by omega⟩⟩
  · intro l hl
    simp only [List.mem_cons, List.not_mem_nil, or_false] at hl
    rcases hl with rfl | rfl <;>
    · refine ⟨?_, by simp⟩
      intro g hg
      obtain ⟨t, ht, rfl⟩ := List.mem_map.mp hg
      have := mem_ancL.mp ht
      simp; omega

theorem chain_nbrOf (m : Nat) (r : Bool) {t : Nat} (ht : t ∈ ancL m) :
    nbrOf (chainDesc (m + 1) r) t = (t - 1, t + 1) := by
  have h := mem_ancL.mp ht
  have hj : t / 2 < (ancL m).length := by rw [ancL_length]; omega
  have e : (ancL m)[t / 2] = t := by simp [ancL]; omega
  have := idxOf?_getElem (ancL_nodup m) hj
  rw [e] at this
  simp only [nbrOf, chain_ancIdx, this, chain_nbr]
  simp [show t / 2 < m by omega]
  omega

section
variable (m : Nat) (hm : 0 < m) (r : Bool) (nD nA : Nat)
local notation "d" => chainDesc (m + 1) r
include hm

theorem roundForm_SB (b : Bool) {t : Nat} (ht : t ∈ ancL m) :
    roundForm (SB d nD nA b b) t = cycleFormB d nD nA (!b) t := by
  have h := mem_ancL.mp ht
  have hwf := chain_wf m hm r
  have h0 : t ∈ (chainDesc (m + 1) r).ancIdx := chain_ancIdx m r ▸ ht
  have h1 : (t - 1) ∈ (chainDesc (m + 1) r).dataIdx := chain_dataIdx m r ▸ mem_dataL.mpr ⟨by omega, by omega⟩
  have h2 : (t + 1) ∈ (chainDesc (m + 1) r).dataIdx := chain_dataIdx m r ▸ mem_dataL.mpr ⟨by omega, by omega⟩
  simp only [roundForm, SB_anc hwf nD nA b b h0, SB_data nD nA b b h1, SB_data nD nA b b h2,
    cycleFormB, finalFormB, parityForm, chain_nbrOf m r ht]
  generalize aVar (chainDesc (m + 1) r) nD nA t = A
  generalize xVar (chainDesc (m + 1) r) nD (t - 1) = x1
  generalize xVar (chainDesc (m + 1) r) nD (t + 1) = x2
  generalize (if ((chainDesc (m + 1) r).refocus && b) = true then 1 else 0) = c
  cases b
  · simpa using (xor_alg_round A x1 x2 c).2
  · simpa using (xor_alg_round A x1 x2 c).1

theorem chain_roundEffect : RoundEffect d nD nA := by
  intro b
  have hwf := chain_wf m hm r
  rw [chain_roundPlain m hm, stateB_eq, chain_size, run_roundIns m _ (fun q _ => SB_Z _ _ _ _ _ q), cB,
    chain_measAnc]
  have hs : mk (2 * m + 1) (ancSet m (SB d nD nA b b) .Z (roundForm (SB d nD nA b b))) =
      mk (2 * m + 1) (SB d nD nA b (!b)) := by
    apply mk_congr
    intro x _
    by_cases hx : x ∈ ancL m
    · rw [ancSet_anc _ _ _ hx, roundForm_SB m hm r nD nA b hx, SB_anc hwf nD nA b (!b) (chain_ancIdx m r ▸ hx)]
    · rw [ancSet_other _ _ _ hx]
      simp [SB, chain_ancIdx, hx]
  have hr : (ancL m).map (roundForm (SB d nD nA b b)) = (ancL m).map (cycleFormB d nD nA (!b)) :=
    List.map_congr_left (fun t ht => roundForm_SB m hm r nD nA b ht)
  rw [hs, hr, List.append_nil]

end

/-- without gate layers and ancillas a round does nothing -/
theorem roundEffect_trivial {d : Desc} (hl : d.layers = []) (ha : d.ancIdx = []) (nD nA : Nat) :
    RoundEffect d nD nA := by
  intro b
  have hm : d.measAnc = [] := by simp [Desc.measAnc, ha]
  have hs : SB d nD nA b (!b) = SB d nD nA b b := by funext q; simp [SB, ha]
  simp only [roundPlain, hl, roundLayers, hm, cB, hs]
  rfl

/-- `Facts` for EVERY chain description `from_chain(2n−1)` (also the empty one, n = 0), with and without
    refocusing, for every container that gives states to the first `nD ≤ n` data qubits and the first
    `nA ≤ n−1` ancilla qubits. -/
theorem chain_facts_all (n : Nat) (r : Bool) (nD nA : Nat) (hD : nD ≤ n) (hA : nA ≤ n - 1) :
    Facts (chainDesc n r) nD nA := by
  have hD' : nD ≤ (chainDesc n r).dataIdx.length := by rw [chain_dataIdx_length]; exact hD
  have hA' : nA ≤ (chainDesc n r).ancIdx.length := by rw [chain_ancIdx_length]; exact hA
  match n with
  | 0 => exact facts_of_round rfl hD' hA' (roundEffect_trivial rfl rfl nD nA)
  | 1 => exact facts_of_round rfl hD' hA' (roundEffect_trivial rfl rfl nD nA)
  | m + 2 => exact facts_of_round (chain_wf (m + 1) (by omega) r) hD' hA' (chain_roundEffect (m + 1) (by omega) r nD nA)

end Qco.RepChain
