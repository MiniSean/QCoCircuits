import QcoVerif.Lemmas.TreeDepth
import QcoVerif.Lemmas.FlattenIdem
import QcoVerif.Lemmas.Draw
/-
  C03 — the mutating listing (`decomposed_operations`) commutes with `add`: for a tree-shaped circuit `c` and an object
  `o` outside its tree, `((w.operations c).1.add c o).operations c = (w.add c o).operations c` (`listing_then_add`).
  The listing is a fold of a world-only step (`wstep`, Lemmas/Listing.lean) that writes only to the objects it visits
  (`reach`, `cone`); `add` is a decision followed by a heap update (`addDec`, `modW`, Lemmas/AddToGraph.lean) that reads
  nothing a listing writes.  Heaps that agree on a region closed under `reach` are listed in lockstep (`decomposed_sim`);
  this is applied to the heaps before and after the `add`, whose listings differ by the inserted node.  A tree-shaped
  heap is `settled` after a listing, so that a second listing is the identity (`settled_after`).  Core Lean only.
-/
namespace Qco.Commute

/-- the objects strictly below `c` that `decomposed g c` visits. -/
def reach (w : World) : Nat → Nat → List Nat
  | 0, _ => []
  | g+1, c => (listing (w.op c).graph).flatMap (fun n => n :: (if (w.op n).isComp then reach w g n else []))

def cone (w : World) (g n : Nat) : List Nat := n :: (if (w.op n).isComp then reach w g n else [])

theorem reach_succ (w : World) (g c : Nat) : reach w (g + 1) c = (listing (w.op c).graph).flatMap (cone w g) := rfl

theorem self_mem_cone (w : World) (g n : Nat) : n ∈ cone w g n := List.mem_cons_self

theorem reach_sub_cone (w : World) (g n : Nat) (hc : (w.op n).isComp = true) {j : Nat} (hj : j ∈ reach w g n) :
    j ∈ cone w g n := by
  unfold cone
  simp only [hc, if_true]
  exact List.mem_cons_of_mem _ hj

theorem reach_congr (y u : World) : ∀ (g c : Nat), (u.op c).noLink = (y.op c).noLink →
    (∀ j ∈ reach y g c, (u.op j).noLink = (y.op j).noLink) → reach u g c = reach y g c := by
  intro g
  induction g with
  | zero => intro c _ _; rfl
  | succ g ih =>
    intro c hc h
    rw [reach_succ, reach_succ, noLink_graph hc]
    apply flatMap_congr'
    intro n hn
    have hn1 : n ∈ reach y (g + 1) c := by
      rw [reach_succ, List.mem_flatMap]; exact ⟨n, hn, self_mem_cone y g n⟩
    have hnn := h n hn1
    unfold cone
    rw [noLink_isComp hnn]
    by_cases hcn : (y.op n).isComp = true
    · simp only [hcn, if_true]
      rw [ih n hnn (fun j hj => h j (by
        rw [reach_succ, List.mem_flatMap]; exact ⟨n, hn, reach_sub_cone y g n hcn hj⟩))]
    · simp [hcn]

theorem cone_congr (y u : World) (g n : Nat) (h : ∀ j ∈ cone y g n, (u.op j).noLink = (y.op j).noLink) :
    cone u g n = cone y g n := by
  have hn := h n (self_mem_cone y g n)
  unfold cone
  rw [noLink_isComp hn]
  by_cases hc : (y.op n).isComp = true
  · simp only [hc, if_true]
    rw [reach_congr y u g n hn (fun j hj => h j (reach_sub_cone y g n hc hj))]
  · simp [hc]

theorem reach_shape {y y0 : World} (h : Shape y y0) (g c : Nat) : reach y g c = reach y0 g c :=
  reach_congr y0 y g c (h.2 c) (fun j _ => h.2 j)

theorem cone_shape {y y0 : World} (h : Shape y y0) (g n : Nat) : cone y g n = cone y0 g n :=
  cone_congr y0 y g n (fun j _ => h.2 j)

theorem wstep_frame (g cl : Nat) (ih : ∀ (c : Nat) (y : World) (j : Nat), j ∉ reach y g c → (y.decomposed g c).1.op j = y.op j)
    {y y0 : World} (h : Shape y y0) (n j : Nat) (hj : j ∉ cone y0 g n) : (wstep g cl y n).op j = y.op j := by
  have hjn : j ≠ n := fun e => hj (e ▸ self_mem_cone y0 g n)
  have h1s : Shape (pre cl y n) y0 := pre_shape cl h n
  have h1 : (pre cl y n).op j = y.op j := pre_op_other cl y n j hjn
  unfold wstep
  split
  · rename_i hc
    rw [h1s.isComp n] at hc
    rw [ih n _ j, h1]
    rw [reach_shape h1s]
    intro hm
    exact hj (reach_sub_cone y0 g n hc hm)
  · exact h1

theorem foldl_frame (g cl : Nat) (ih : ∀ (c : Nat) (y : World) (j : Nat), j ∉ reach y g c → (y.decomposed g c).1.op j = y.op j)
    (y0 : World) : ∀ (L : List Nat) (y : World) (j : Nat), Shape y y0 → j ∉ L.flatMap (cone y0 g) →
      (L.foldl (wstep g cl) y).op j = y.op j := by
  intro L
  induction L with
  | nil => intro y j _ _; rfl
  | cons n ns ihL =>
    intro y j h hj
    simp only [List.flatMap_cons, List.mem_append, not_or] at hj
    simp only [List.foldl_cons]
    rw [ihL _ j (wstep_shape g cl h n) hj.2]
    exact wstep_frame g cl ih h n j hj.1

theorem decomposed_frame : ∀ (g c : Nat) (y : World) (j : Nat), j ∉ reach y g c → (y.decomposed g c).1.op j = y.op j := by
  intro g
  induction g with
  | zero => intro c y j _; rfl
  | succ g ih =>
    intro c y j hj
    rw [decomposed_fst]
    rw [reach_succ] at hj
    exact foldl_frame g _ ih y _ y j (Shape.refl y) hj

theorem wstep_frame' (g cl : Nat) {y y0 : World} (h : Shape y y0) (n j : Nat) (hj : j ∉ cone y0 g n) :
    (wstep g cl y n).op j = y.op j := wstep_frame g cl (decomposed_frame g) h n j hj

theorem foldl_frame' (g cl : Nat) (y0 : World) (L : List Nat) (y : World) (j : Nat) (h : Shape y y0)
    (hj : j ∉ L.flatMap (cone y0 g)) : (L.foldl (wstep g cl) y).op j = y.op j :=
  foldl_frame g cl (decomposed_frame g) y0 L y j h hj

/-- a relation between heaps that is kept by assigning the same link to the same object of the region `R`, and that
    makes the two heaps agree on what the listing reads of the objects of `R`. -/
structure SimSpec (R : Nat → Prop) (P : Nat → Prop) (Sim : World → World → Prop) : Prop where
  set : ∀ y y' n k, Sim y y' → R n → P k → Sim (y.setLink n k) (y'.setLink n k)
  rel : ∀ y y' n, Sim y y' → R n → y'.hasRel n = y.hasRel n
  op : ∀ y y' n, Sim y y' → R n → y'.op n = y.op n
  lk : ∀ y y' n, Sim y y' → R n → P (y.op n).link

theorem wstep_sim {R P : Nat → Prop} {Sim : World → World → Prop} (S : SimSpec R P Sim) (g cl : Nat)
    (ih : ∀ (n : Nat) (y y' : World), Sim y y' → R n → (∀ j ∈ reach y g n, R j) →
      Sim (y.decomposed g n).1 (y'.decomposed g n).1)
    {y y' y0 : World} (h : Sim y y') (hs : Shape y y0) (n : Nat) (hR : ∀ j ∈ cone y0 g n, R j) (hcl : P cl) :
    Sim (wstep g cl y n) (wstep g cl y' n) := by
  have hn : R n := hR n (self_mem_cone y0 g n)
  have hrel := S.rel y y' n h hn
  have h1 : Sim (pre cl y n) (pre cl y' n) := by
    unfold pre
    rw [hrel]
    split
    · exact S.set y y' n cl h hn hcl
    · exact h
  have h1s : Shape (pre cl y n) y0 := pre_shape cl hs n
  have hop := S.op _ _ n h1 hn
  unfold wstep
  rw [hop]
  split
  · rename_i hc
    apply ih n _ _ h1 hn
    intro j hj
    rw [reach_shape h1s] at hj
    rw [h1s.isComp n] at hc
    exact hR j (reach_sub_cone y0 g n hc hj)
  · exact h1

theorem foldl_sim {R P : Nat → Prop} {Sim : World → World → Prop} (S : SimSpec R P Sim) (g cl : Nat)
    (ih : ∀ (n : Nat) (y y' : World), Sim y y' → R n → (∀ j ∈ reach y g n, R j) →
      Sim (y.decomposed g n).1 (y'.decomposed g n).1)
    (y0 : World) (hcl : P cl) : ∀ (L : List Nat) (y y' : World), Sim y y' → Shape y y0 →
      (∀ j ∈ L.flatMap (cone y0 g), R j) → Sim (L.foldl (wstep g cl) y) (L.foldl (wstep g cl) y') := by
  intro L
  induction L with
  | nil => intro y y' h _ _; exact h
  | cons n ns ihL =>
    intro y y' h hs hR
    simp only [List.foldl_cons]
    simp only [List.flatMap_cons, List.mem_append] at hR
    exact ihL _ _ (wstep_sim S g cl ih h hs n (fun j hj => hR j (Or.inl hj)) hcl) (wstep_shape g cl hs n)
      (fun j hj => hR j (Or.inr hj))

theorem decomposed_sim {R P : Nat → Prop} {Sim : World → World → Prop} (S : SimSpec R P Sim) :
    ∀ (g n : Nat) (y y' : World), Sim y y' → R n → (∀ j ∈ reach y g n, R j) →
      Sim (y.decomposed g n).1 (y'.decomposed g n).1 := by
  intro g
  induction g with
  | zero => intro n y y' h _ _; exact h
  | succ g ih =>
    intro n y y' h hn hR
    rw [decomposed_fst, decomposed_fst, S.op y y' n h hn]
    rw [reach_succ] at hR
    exact foldl_sim S g _ ih y (S.lk y y' n h hn) _ y y' h (Shape.refl y) hR

theorem foldl_sim' {R P : Nat → Prop} {Sim : World → World → Prop} (S : SimSpec R P Sim) (g cl : Nat)
    (y0 : World) (hcl : P cl) (L : List Nat) (y y' : World) (h : Sim y y') (hs : Shape y y0)
    (hR : ∀ j ∈ L.flatMap (cone y0 g), R j) : Sim (L.foldl (wstep g cl) y) (L.foldl (wstep g cl) y') :=
  foldl_sim S g cl (decomposed_sim S g) y0 hcl L y y' h hs hR

theorem mem_listing_kids (w : World) (c n : Nat) : n ∈ listing (w.op c).graph ↔ n ∈ w.kids c := by
  rw [mem_listing_iff]
  unfold World.kids
  simp [List.mem_map]

theorem mem_cone_iff_below (y : World) : ∀ (f n : Nat), TreeBelow y f n → ∀ g, f ≤ g →
    ∀ j, (j ∈ cone y g n ↔ j ∈ y.below f n) := by
  intro f
  induction f with
  | zero => intro n h; exact h.elim
  | succ f ih =>
    intro n ht g hg j
    cases g with
    | zero => omega
    | succ g =>
      by_cases hc : (y.op n).isComp = true
      · rw [below_comp y f n hc]
        unfold cone
        simp only [hc, if_true, reach_succ, List.mem_cons, List.mem_flatMap]
        constructor
        · rintro (h | ⟨m, hm, hj⟩)
          · exact Or.inl h
          · have hm' := (mem_listing_kids y n m).mp hm
            exact Or.inr ⟨m, hm', (ih m (ht.kid hc hm') g (by omega) j).mp hj⟩
        · rintro (h | ⟨m, hm, hj⟩)
          · exact Or.inl h
          · exact Or.inr ⟨m, (mem_listing_kids y n m).mpr hm, (ih m (ht.kid hc hm) g (by omega) j).mpr hj⟩
      · have hc' : (y.op n).isComp = false := by simpa using hc
        rw [below_leaf y f n hc']
        unfold cone
        simp [hc']

theorem reach_sub_below (y : World) (f g c : Nat) (ht : TreeBelow y f c) (hg : f ≤ g) (hc : (y.op c).isComp = true)
    {j : Nat} (hj : j ∈ reach y g c) : j ∈ y.below f c :=
  (mem_cone_iff_below y f c ht g hg j).mp (reach_sub_cone y g c hc hj)

theorem not_mem_reach_self (y : World) (f g m : Nat) (ht : TreeBelow y f m) (hg : f ≤ g)
    (hc : (y.op m).isComp = true) : m ∉ reach y g m := by
  cases f with
  | zero => exact ht.elim
  | succ f =>
    cases g with
    | zero => omega
    | succ g =>
      intro hm
      rw [reach_succ, List.mem_flatMap] at hm
      obtain ⟨k, hk, hmk⟩ := hm
      have hk' := (mem_listing_kids y m k).mp hk
      have := (mem_cone_iff_below y f k (ht.kid hc hk') g (by omega) m).mp hmk
      exact ht.not_below_kid hc hk' this

theorem settled_congr : ∀ (g c : Nat) (y y' : World), y'.links = y.links → y'.op c = y.op c →
    (∀ j ∈ reach y g c, y'.op j = y.op j) → Draw.settled y' g c = Draw.settled y g c := by
  intro g
  induction g with
  | zero => intro c y y' _ _ _; rfl
  | succ g ih =>
    intro c y y' hl hc h
    simp only [Draw.settled]
    rw [hc]
    apply all_congr'
    intro n hn
    have hn1 : n ∈ reach y (g + 1) c := by
      rw [reach_succ, List.mem_flatMap]
      exact ⟨n, hn, self_mem_cone y g n⟩
    have hn' : y'.op n = y.op n := h n hn1
    have hr : y'.hasRel n = y.hasRel n := World.hasRel_congr hn' (World.lnk_of_links_eq hl _)
    rw [hr, hn']
    by_cases hcn : (y.op n).isComp = true
    · rw [ih n y y' hl hn' (fun j hj => h j (by
        rw [reach_succ, List.mem_flatMap]
        exact ⟨n, hn, reach_sub_cone y g n hcn hj⟩))]
    · have : (y.op n).isComp = false := by simpa using hcn
      simp [this]

/-- "node `n` of a block with link `cl` is settled in `z`". -/
def NS (g cl : Nat) (z : World) (n : Nat) : Prop :=
  (z.hasRel n = true ∨ (z.op n).link = cl) ∧ ((z.op n).isComp = true → Draw.settled z g n = true)

theorem NS_congr (g cl : Nat) {y z z1 : World} (hs : Shape z y) (n : Nat) (hl : z1.links = z.links)
    (h : ∀ j ∈ cone y g n, z1.op j = z.op j) (hns : NS g cl z n) : NS g cl z1 n := by
  have hn : z1.op n = z.op n := h n (self_mem_cone y g n)
  have hr : z1.hasRel n = z.hasRel n := World.hasRel_congr hn (World.lnk_of_links_eq hl _)
  refine ⟨by rw [hr, hn]; exact hns.1, ?_⟩
  intro hc
  rw [hn] at hc
  rw [settled_congr g n z z1 hl hn (fun j hj => h j (by
    rw [reach_shape hs] at hj
    exact reach_sub_cone y g n (by rw [← hs.isComp n]; exact hc) hj))]
  exact hns.2 hc

theorem wstep_NS (f g cl : Nat)
    (ih : ∀ (c : Nat) (y : World), TreeBelow y f c → f ≤ g → (y.op c).isComp = true →
      Draw.settled (y.decomposed g c).1 g c = true)
    {y z : World} (hs : Shape z y) (hsz : z.ops.size = y.ops.size) (m : Nat) (ht : TreeBelow y f m) (hg : f ≤ g) :
    NS g cl (wstep g cl z m) m := by
  have hm : m < z.ops.size := by rw [hsz]; exact ht.lt
  have h1 := pre_rel_or_link cl z m hm
  have h1s : Shape (pre cl z m) y := pre_shape cl hs m
  unfold wstep
  split
  · rename_i hc
    have hcy : (y.op m).isComp = true := by rw [← h1s.isComp m]; exact hc
    have ht1 : TreeBelow (pre cl z m) f m :=
      tree_congr y (pre cl z m) (by rw [pre_size, hsz]; exact Nat.le_refl _) f m ht (fun j _ => h1s.2 j)
    have hfr : ((pre cl z m).decomposed g m).1.op m = (pre cl z m).op m :=
      decomposed_frame g m _ m (by rw [reach_shape h1s]; exact not_mem_reach_self y f g m ht hg hcy)
    have hlk : ((pre cl z m).decomposed g m).1.links = (pre cl z m).links := (decomposed_sizes g m _).2
    refine ⟨?_, fun _ => ih m _ ht1 hg hc⟩
    rw [hfr, World.hasRel_congr hfr (World.lnk_of_links_eq hlk _)]
    exact h1
  · rename_i hc
    exact ⟨h1, fun h => absurd h hc⟩

theorem foldl_NS (f g cl : Nat)
    (ih : ∀ (c : Nat) (y : World), TreeBelow y f c → f ≤ g → (y.op c).isComp = true →
      Draw.settled (y.decomposed g c).1 g c = true)
    (y : World) (hg : f ≤ g) (L : List Nat) (hL : ∀ n ∈ L, TreeBelow y f n)
    (hdisj : ∀ a ∈ L, ∀ b ∈ L, a ≠ b → ∀ j, j ∈ cone y g a → j ∉ cone y g b) :
    ∀ (L2 L1 : List Nat) (z : World), Shape z y → z.ops.size = y.ops.size → (∀ n ∈ L1 ++ L2, n ∈ L) →
      (L1 ++ L2).Nodup → (∀ n ∈ L1, NS g cl z n) → ∀ n ∈ L1 ++ L2, NS g cl (L2.foldl (wstep g cl) z) n := by
  intro L2
  induction L2 with
  | nil => intro L1 z _ _ _ _ h n hn; exact h n (by simpa using hn)
  | cons m L2 ihL =>
    intro L1 z hs hsz hsub hnd h n hn
    simp only [List.foldl_cons]
    have hmL : m ∈ L := hsub m (by simp)
    have e : L1 ++ m :: L2 = (L1 ++ [m]) ++ L2 := by simp
    rw [e] at hsub hnd hn
    refine ihL (L1 ++ [m]) (wstep g cl z m) (wstep_shape g cl hs m) (by rw [wstep_size, hsz]) hsub hnd ?_ n hn
    intro k hk
    rcases List.mem_append.mp hk with hk1 | hk2
    · have hkL : k ∈ L := hsub k (by simp [hk1])
      have hkm : k ≠ m := by
        intro e
        have h3 := (List.nodup_append.mp hnd).1
        rw [List.nodup_append] at h3
        exact h3.2.2 k hk1 m (by simp) e
      apply NS_congr g cl hs k (wstep_links g cl z m) _ (h k hk1)
      intro j hj
      exact wstep_frame' g cl hs m j (fun hjm => hdisj k hkL m hmL hkm j hj hjm)
    · simp only [List.mem_singleton] at hk2
      rw [hk2]
      exact wstep_NS f g cl ih hs hsz m (hL m hmL) hg

theorem settled_after : ∀ (f g c : Nat) (y : World), TreeBelow y f c → f ≤ g → (y.op c).isComp = true →
    Draw.settled (y.decomposed g c).1 g c = true := by
  intro f
  induction f with
  | zero => intro g c y h; exact h.elim
  | succ f ih =>
    intro g c y ht hg hc
    cases g with
    | zero => omega
    | succ g =>
      have hg' : f ≤ g := by omega
      have hkid : ∀ n ∈ listing (y.op c).graph, TreeBelow y f n :=
        fun n hn => ht.kid hc ((mem_listing_kids y c n).mp hn)
      have hcone : ∀ n ∈ listing (y.op c).graph, ∀ j, (j ∈ cone y g n ↔ j ∈ y.below f n) :=
        fun n hn j => mem_cone_iff_below y f n (hkid n hn) g hg' j
      have hdisj : ∀ a ∈ listing (y.op c).graph, ∀ b ∈ listing (y.op c).graph, a ≠ b →
          ∀ j, j ∈ cone y g a → j ∉ cone y g b := by
        intro a ha b hb hab j hja hjb
        exact ht.disj hc ((mem_listing_kids y c a).mp ha) ((mem_listing_kids y c b).mp hb) hab j
          ((hcone a ha j).mp hja) ((hcone b hb j).mp hjb)
      have hnd : (listing (y.op c).graph).Nodup := listing_nodup (ht.kids_nodup hc)
      have hcn : c ∉ (listing (y.op c).graph).flatMap (cone y g) := by
        intro hm
        obtain ⟨n, hn, hcn⟩ := List.mem_flatMap.mp hm
        exact ht.not_below_kid hc ((mem_listing_kids y c n).mp hn) ((hcone n hn c).mp hcn)
      have hfold := foldl_NS f g (y.op c).link (fun c y => ih g c y) y hg' (listing (y.op c).graph) hkid hdisj
        (listing (y.op c).graph) [] y (Shape.refl y) rfl (fun n hn => by simpa using hn) (by simpa using hnd)
        (fun n hn => by cases hn)
      have hopc : (y.decomposed (g + 1) c).1.op c = y.op c := by
        rw [decomposed_fst]
        exact foldl_frame' g _ y _ y c (Shape.refl y) hcn
      simp only [Draw.settled]
      rw [hopc, List.all_eq_true]
      intro n hn
      have := hfold n (by simpa using hn)
      rw [← decomposed_fst] at this
      obtain ⟨h1, h2⟩ := this
      simp only [Bool.and_eq_true, Bool.or_eq_true, beq_iff_eq, Bool.not_eq_eq_eq_not, Bool.not_true]
      refine ⟨h1, ?_⟩
      by_cases hcn : ((y.decomposed (g + 1) c).1.op n).isComp = true
      · exact Or.inr (h2 hcn)
      · exact Or.inl (by simpa using hcn)

theorem decomposed_idem (y : World) (f g c : Nat) (ht : TreeBelow y f c) (hg : f ≤ g) (hc : (y.op c).isComp = true) :
    ((y.decomposed g c).1.decomposed g c).1 = (y.decomposed g c).1 := by
  rw [Draw.decomposed_of_settled g _ c (settled_after f g c y ht hg hc)]

/-- `settled_after` for `World.operations`: every node below `c` has a relation or carries the link of its enclosing
    composite (the hypothesis of `C03.listing_fixed_point` and of `C18.plot_frame_partial`). -/
theorem listing_leaves_settled (w : World) (f c : Nat) (ht : TreeBelow w f c) (hf : f ≤ w.depthFuel)
    (hc : (w.op c).isComp = true) :
    Draw.settled (w.operations c).1 (w.operations c).1.depthFuel c = true := by
  have hfuel : (w.operations c).1.depthFuel = w.depthFuel := by
    unfold World.depthFuel; rw [operations_ops_size]
  rw [hfuel]
  exact settled_after f w.depthFuel c w ht hf hc

theorem sortedEntries_insert {g : List Entry} {e : Entry}
    (hk : ∀ a ∈ g ++ [e], ∀ b ∈ g ++ [e], a.key = b.key → a = b) :
    ∃ A B, sortedEntries (g ++ [e]) = A ++ e :: B ∧ sortedEntries g = A ++ B := by
  obtain ⟨l₁, l₂, h1, h2, _⟩ := List.mergeSort_cons (le := entryLe) (fun a b c => entryLe_trans a b c)
    (fun a b => entryLe_total a b) e g
  refine ⟨l₁, l₂, ?_, h2⟩
  rw [← h1]
  apply sortedEntries_eq_of_perm _ (sortedEntries_pairwise (e :: g)) hk
  refine (sortedEntries_perm (e :: g)).trans ?_
  exact (List.perm_append_comm (l₁ := [e]) (l₂ := g))

theorem listing_attach_insert {g : List Entry} (hb : Built g) (p : Option Nat) (o : Nat)
    (hp : ∀ q, p = some q → inGraph g q = true) (hn : inGraph g o = false) :
    ∃ A B, listing (attach g p o) = A ++ o :: B ∧ listing g = A ++ B := by
  have hb' : Built (attach g p o) := built_attach hb p o hp hn
  rw [attach_def] at hb' ⊢
  obtain ⟨A, B, h1, h2⟩ := sortedEntries_insert (g := g)
    (e := { node := o, parent := p, key := baseKey g p ++ [sibCount g p] })
    (fun a ha b hb'' h => built_key_inj hb' _ a ha b hb'' rfl h)
  refine ⟨A.map (·.node), B.map (·.node), ?_, ?_⟩
  · unfold listing; rw [h1]; simp
  · unfold listing; rw [h2]; simp

theorem modW_opsOnly (k : Option (Nat × Bool × Link)) (o : Nat) {y y' : World} (h : OpsOnly y y') :
    OpsOnly (modW k o y) (modW k o y') := by
  obtain ⟨O, rfl⟩ := opsOnly_exists h
  cases k <;> rfl

theorem setGraph_opsOnly (c : Nat) (G : List Entry) {y y' : World} (h : OpsOnly y y') :
    OpsOnly (y.setGraph c G) (y'.setGraph c G) := by
  obtain ⟨O, rfl⟩ := opsOnly_exists h
  rfl

/-- the heap after `add`, given its decision `k` and the new graph `G` of `c`. -/
def addW (k : Option (Nat × Bool × Link)) (G : List Entry) (c o : Nat) (y : World) : World :=
  (modW k o y).setGraph c G

theorem addW_size (k : Option (Nat × Bool × Link)) (G : List Entry) (c o : Nat) (y : World) :
    (addW k G c o y).ops.size = y.ops.size := by
  unfold addW
  rw [World.ops_size_setGraph, modW_size]

theorem addW_op (k : Option (Nat × Bool × Link)) (G : List Entry) (c o : Nat) (y : World) (j : Nat) :
    (addW k G c o y).op j =
      if c = j ∧ c < y.ops.size then { (modW k o y).op c with graph := G } else (modW k o y).op j := by
  unfold addW
  rw [World.op_setGraph, modW_size]

theorem addW_opsOnly (k : Option (Nat × Bool × Link)) (G : List Entry) (c o : Nat) {y y' : World} (h : OpsOnly y y') :
    OpsOnly (addW k G c o y) (addW k G c o y') := setGraph_opsOnly c G (modW_opsOnly k o h)

theorem addW_lnk (k : Option (Nat × Bool × Link)) (G : List Entry) (c o : Nat) (y : World) (l : Nat)
    (hl : l < y.links.size) : (addW k G c o y).lnk l = y.lnk l := modW_lnk k o y l hl

theorem addW_op_congr (k : Option (Nat × Bool × Link)) (G : List Entry) (c o : Nat) {y y' : World}
    (hs : y'.ops.size = y.ops.size) (hl : y'.links.size = y.links.size) (j : Nat)
    (ho : y'.op o = y.op o) (hc : y'.op c = y.op c) (hj : y'.op j = y.op j) :
    (addW k G c o y').op j = (addW k G c o y).op j := by
  rw [addW_op, addW_op, modW_op, modW_op, modW_op, modW_op, hs, hl, ho, hc, hj]

def SimLoc (X : List Nat) (y z : World) : Prop :=
  z.ops.size = y.ops.size ∧ z.links = y.links ∧ ∀ j ∈ X, z.op j = y.op j

theorem simLoc_spec (X : List Nat) : SimSpec (fun n => n ∈ X) (fun _ => True) (SimLoc X) := by
  refine ⟨?_, ?_, ?_, ?_⟩
  · intro y z n k h hn _
    obtain ⟨h1, h2, h3⟩ := h
    refine ⟨by rw [World.ops_size_setLink, World.ops_size_setLink, h1], h2, ?_⟩
    intro j hj
    rw [World.op_setLink, World.op_setLink, h1, h3 n hn, h3 j hj]
  · intro y z n h hn
    exact World.hasRel_congr (h.2.2 n hn) (World.lnk_of_links_eq h.2.1 _)
  · intro y z n h hn
    exact h.2.2 n hn
  · intro _ _ _ _ _
    trivial

theorem wstep_local (g cl : Nat) (X : List Nat) {y z : World} (h : SimLoc X y z) (n : Nat)
    (hn : ∀ j ∈ cone y g n, j ∈ X) : SimLoc X (wstep g cl y n) (wstep g cl z n) :=
  wstep_sim (simLoc_spec X) g cl (decomposed_sim (simLoc_spec X) g) h (Shape.refl y) n hn trivial

/-- the lockstep relation between the listing of `y` and the listing of `addW … y`: the heaps agree on everything but
    the objects `X` at and below the added object and the composite `c`; on `X` the second heap agrees with a recorded
    heap `Z`, and its `c` is the recorded object `C`. -/
def SimAdd (c K : Nat) (X : List Nat) (Z : World) (C : Op) (y z : World) : Prop :=
  z.ops.size = y.ops.size ∧ (∀ j, j ∉ X → j ≠ c → z.op j = y.op j) ∧ (∀ l, l < K → z.lnk l = y.lnk l) ∧
  (∀ j, (y.op j).link < K) ∧ (∀ j ∈ X, z.op j = Z.op j) ∧ z.op c = C

theorem simAdd_spec (c K : Nat) (X : List Nat) (Z : World) (C : Op) :
    SimSpec (fun n => n ∉ X ∧ n ≠ c) (fun k => k < K) (SimAdd c K X Z C) := by
  refine ⟨?_, ?_, ?_, ?_⟩
  · intro y z n k h hn hk
    obtain ⟨h1, h2, h3, h4, h5, h6⟩ := h
    refine ⟨by rw [World.ops_size_setLink, World.ops_size_setLink, h1], ?_, h3, ?_, ?_, ?_⟩
    · intro j hjo hjc
      rw [World.op_setLink, World.op_setLink, h1, h2 n hn.1 hn.2, h2 j hjo hjc]
    · intro j
      rw [World.op_setLink]
      split
      · exact hk
      · exact h4 j
    · intro j hj
      rw [z.op_setLink_of_ne k (fun e : j = n => hn.1 (e ▸ hj))]; exact h5 j hj
    · rw [z.op_setLink_of_ne k (Ne.symm hn.2)]; exact h6
  · intro y z n h hn
    exact World.hasRel_congr (h.2.1 n hn.1 hn.2) (h.2.2.1 _ (h.2.2.2.1 n))
  · intro y z n h hn
    exact h.2.1 n hn.1 hn.2
  · intro y z n h _
    exact h.2.2.2.1 n

theorem addW_op_c (k : Option (Nat × Bool × Link)) (G : List Entry) (c o : Nat) (y : World) (hc : c < y.ops.size)
    (hoc : o ≠ c) : (addW k G c o y).op c = { y.op c with graph := G } := by
  rw [addW_op, modW_op]
  have : ¬ (k.isSome ∧ o = c ∧ o < y.ops.size) := fun h => hoc h.2.1
  simp [hc, this]

theorem addW_op_other (k : Option (Nat × Bool × Link)) (G : List Entry) (c o : Nat) (y : World) (j : Nat)
    (hjo : j ≠ o) (hjc : j ≠ c) : (addW k G c o y).op j = y.op j := by
  rw [addW_op]
  have h1 : ¬ (c = j ∧ c < y.ops.size) := fun h => hjc h.1.symm
  have h2 : ¬ (k.isSome ∧ o = j ∧ o < y.ops.size) := fun h => hjo h.2.1.symm
  simp only [h1, if_false]
  rw [modW_op]
  simp only [h2, if_false]

theorem addW_noLink (k : Option (Nat × Bool × Link)) (G : List Entry) (c o : Nat) (y : World) (j : Nat)
    (hjc : j ≠ c) : ((addW k G c o y).op j).noLink = (y.op j).noLink := by
  rw [addW_op]
  have h1 : ¬ (c = j ∧ c < y.ops.size) := fun h => hjc h.1.symm
  simp only [h1, if_false]
  exact (modW_shape k o y).2 j

/-- **listing after `add`**, object by object: the objects of the old tree end as in a listing of the heap before the
    `add`; the composite keeps what `add` gave it; the objects at and below the new node `o` end as the step of the
    listing at `o` leaves them when run on the heap right after the `add`. -/
theorem add_listing_char (y : World) (k : Option (Nat × Bool × Link)) (G : List Entry) (c o F : Nat) (A B : List Nat)
    (hc : c < y.ops.size) (hoc : o ≠ c)
    (hrange : ∀ j, (y.op j).link < y.links.size)
    (hXr : ∀ j ∈ cone y F o, j ∉ reach y (F + 1) c) (hXc : c ∉ cone y F o) (hcr : c ∉ reach y (F + 1) c)
    (hG : listing G = A ++ o :: B) (hg : listing (y.op c).graph = A ++ B) :
    ((addW k G c o y).decomposed (F + 1) c).1.ops.size = y.ops.size ∧
    (∀ j, j ∉ cone y F o → j ≠ c →
      ((addW k G c o y).decomposed (F + 1) c).1.op j = (y.decomposed (F + 1) c).1.op j) ∧
    ((addW k G c o y).decomposed (F + 1) c).1.op c = (addW k G c o y).op c ∧
    (∀ j ∈ cone y F o, ((addW k G c o y).decomposed (F + 1) c).1.op j =
      (wstep F (y.op c).link (addW k G c o y) o).op j) := by
  have huc := addW_op_c k G c o y hc hoc
  have hother : ∀ j, j ∉ cone y F o → j ≠ c → (addW k G c o y).op j = y.op j := fun j hj hjc =>
    addW_op_other k G c o y j (fun e => hj (e ▸ self_mem_cone y F o)) hjc
  have hnl : ∀ j ∈ cone y F o, ((addW k G c o y).op j).noLink = (y.op j).noLink := fun j hj =>
    addW_noLink k G c o y j (fun e => hXc (e ▸ hj))
  have hlnk : ∀ l, l < y.links.size → (addW k G c o y).lnk l = y.lnk l := fun l hl => addW_lnk k G c o y l hl
  have hus : (addW k G c o y).ops.size = y.ops.size := addW_size k G c o y
  generalize addW k G c o y = u at huc hother hnl hlnk hus
  have hcone : cone u F o = cone y F o := cone_congr y u F o hnl
  have hcl : (y.op c).link < y.links.size := hrange c
  have h0 : SimAdd c y.links.size (cone y F o) u (u.op c) y u := ⟨hus, hother, hlnk, hrange, fun _ _ => rfl, rfl⟩
  rw [decomposed_fst, decomposed_fst, huc, hg]
  show (((listing G).foldl (wstep F (y.op c).link) u).ops.size = y.ops.size) ∧ _
  rw [hG, List.foldl_append, List.foldl_cons, List.foldl_append]
  have hreach : ∀ j, j ∈ (A ++ B).flatMap (cone y F) → j ∉ cone y F o ∧ j ≠ c := by
    intro j hj
    rw [← hg, ← reach_succ] at hj
    exact ⟨fun hx => hXr j hx hj, fun e => hcr (e ▸ hj)⟩
  have hRA : ∀ j ∈ A.flatMap (cone y F), j ∉ cone y F o ∧ j ≠ c := fun j hj =>
    hreach j (by rw [List.flatMap_append]; exact List.mem_append_left _ hj)
  have hRB : ∀ j ∈ B.flatMap (cone y F), j ∉ cone y F o ∧ j ≠ c := fun j hj =>
    hreach j (by rw [List.flatMap_append]; exact List.mem_append_right _ hj)
  have hA := foldl_sim' (simAdd_spec c y.links.size (cone y F o) u (u.op c)) F (y.op c).link y hcl A y u h0
    (Shape.refl y) hRA
  have hsAu : Shape (A.foldl (wstep F (y.op c).link) u) u := foldl_shape F _ A u (Shape.refl u)
  have hzAl : (A.foldl (wstep F (y.op c).link) u).links = u.links :=
    (foldl_opsOnly F _ A u).links
  have hzAs : (A.foldl (wstep F (y.op c).link) u).ops.size = u.ops.size := foldl_size F _ A u
  generalize A.foldl (wstep F (y.op c).link) u = zA at hA hsAu hzAl hzAs
  have hsA : Shape (A.foldl (wstep F (y.op c).link) y) y := foldl_shape F _ A y (Shape.refl y)
  have hyAs : (A.foldl (wstep F (y.op c).link) y).ops.size = y.ops.size := foldl_size F _ A y
  generalize A.foldl (wstep F (y.op c).link) y = yA at hA hsA hyAs
  obtain ⟨a1, a2, a3, a4, a5, a6⟩ := hA
  have hloc : SimLoc (cone y F o) (wstep F (y.op c).link u o) (wstep F (y.op c).link zA o) :=
    wstep_local F _ (cone y F o) ⟨hzAs, hzAl, a5⟩ o (fun j hj => hcone ▸ hj)
  have hfr : ∀ j, j ∉ cone y F o → (wstep F (y.op c).link zA o).op j = zA.op j := fun j hj =>
    wstep_frame' F _ hsAu o j (by rw [hcone]; exact hj)
  have h1 : SimAdd c y.links.size (cone y F o) (wstep F (y.op c).link u o) (u.op c) yA
      (wstep F (y.op c).link zA o) := by
    refine ⟨by rw [wstep_size]; exact a1, ?_, ?_, a4, hloc.2.2, ?_⟩
    · intro j hjo hjc
      rw [hfr j hjo]; exact a2 j hjo hjc
    · intro l hl
      rw [World.lnk_of_links_eq (wstep_links F _ zA o)]
      exact a3 l hl
    · rw [hfr c hXc]; exact a6
  have hB := foldl_sim' (simAdd_spec c y.links.size (cone y F o) (wstep F (y.op c).link u o) (u.op c)) F
    (y.op c).link y hcl B yA _ h1 hsA hRB
  obtain ⟨b1, b2, _, _, b5, b6⟩ := hB
  refine ⟨?_, b2, by rw [← huc]; exact b6, b5⟩
  rw [b1, foldl_size, hyAs]

theorem addW_shape (k : Option (Nat × Bool × Link)) (G : List Entry) (c o : Nat) {y' y : World} (h : Shape y' y)
    (hs : y'.ops.size = y.ops.size) : Shape (addW k G c o y') (addW k G c o y) := by
  unfold addW
  apply shape_setGraph _ (by rw [modW_size, modW_size, hs])
  have h1 := modW_shape k o y'
  have h2 := modW_shape k o y
  exact ⟨h1.1.trans (h.1.trans h2.1.symm), fun j => (h1.2 j).trans ((h.2 j).trans (h2.2 j).symm)⟩

/-- **the decision of `add` reads the added object, the graph of the composite, the links, and of every other object only
    what `Shape` keeps**: on two such heaps `add` is the same transformation `addW`. -/
theorem add_same_decision {y z : World} (hs : Shape z y) (hsz : z.ops.size = y.ops.size) (hl : z.links = y.links)
    (c o : Nat) (hopo : z.op o = y.op o) (hopc : z.op c = y.op c) (hsingle : (y.lnk (y.op o).link).multi = false) :
    z.add c o =
      addW (addDec (y.hasRel o) (y.leafAtAny (y.op c).graph (y.chansOf o)) (y.refOf (y.op o).link) (y.op c).graph).1
        (attach (y.op c).graph
          (addDec (y.hasRel o) (y.leafAtAny (y.op c).graph (y.chansOf o)) (y.refOf (y.op o).link) (y.op c).graph).2 o)
        c o z := by
  have hrel : z.hasRel o = y.hasRel o := World.hasRel_congr hopo (World.lnk_of_links_eq hl _)
  have href : z.refOf (z.op o).link = y.refOf (y.op o).link := by
    rw [hopo, World.refOf_single y _ hsingle,
      World.refOf_single z _ (by rw [World.lnk_of_links_eq hl]; exact hsingle), World.lnk_of_links_eq hl]
  have hlf : z.leafAtAny (z.op c).graph (z.chansOf o) = y.leafAtAny (y.op c).graph (y.chansOf o) := by
    rw [hopc, chansOf_shape hs hsz, leafAtAny_shape hs hsz]
  rw [add_eq z c o, hrel, href, hlf, hopc]
  rfl

theorem depthFuel_eq (w : World) : w.depthFuel = (w.ops.size + 1) + 1 := rfl

/-- the hypotheses of the commutation theorem: `c` is a composite whose content is a tree (no object hangs in two
    graphs, ids in range, depth within the fuel of the driver) built by `attach`; every object's link is an existing
    link; `o` is an object — a leaf operation or a whole sub-circuit — none of whose objects (`cone`: `o` and what a listing
    visits below it) is an object of that tree, and its link is not a group link. -/
structure AddOk (w : World) (f c o : Nat) : Prop where
  tree : TreeBelow w f c
  fuel : f ≤ w.depthFuel
  comp : (w.op c).isComp = true
  apart : ∀ j ∈ cone w (w.ops.size + 1) o, j ∉ w.below f c
  range : ∀ j, (w.op j).link < w.links.size
  built : Built (w.op c).graph
  single : (w.lnk (w.op o).link).multi = false

theorem AddOk.of_leaf {w : World} {f c o : Nat} (tree : TreeBelow w f c) (fuel : f ≤ w.depthFuel)
    (comp : (w.op c).isComp = true) (leaf : (w.op o).isComp = false) (fresh : o ∉ w.below f c)
    (range : ∀ j, (w.op j).link < w.links.size) (built : Built (w.op c).graph)
    (single : (w.lnk (w.op o).link).multi = false) : AddOk w f c o := by
  refine ⟨tree, fuel, comp, ?_, range, built, single⟩
  intro j hj
  unfold cone at hj
  simp only [leaf, Bool.false_eq_true, if_false, List.mem_singleton] at hj
  rw [hj]; exact fresh

theorem AddOk.of_tree {w : World} {f f' c o : Nat} (tree : TreeBelow w f c) (fuel : f ≤ w.depthFuel)
    (comp : (w.op c).isComp = true) (otree : TreeBelow w f' o) (ofuel : f' < w.depthFuel)
    (apart : ∀ j ∈ w.below f' o, j ∉ w.below f c)
    (range : ∀ j, (w.op j).link < w.links.size) (built : Built (w.op c).graph)
    (single : (w.lnk (w.op o).link).multi = false) : AddOk w f c o := by
  refine ⟨tree, fuel, comp, ?_, range, built, single⟩
  intro j hj
  exact apart j ((mem_cone_iff_below w f' o otree (w.ops.size + 1) (by unfold World.depthFuel at ofuel; omega) j).mp hj)

/-- what the hypotheses give about the heap left by the listing: the objects at and below `o`, and `c` itself, are not
    visited, so they keep their state. -/
theorem addOk_facts (w : World) (f c o : Nat) (H : AddOk w f c o) :
    o ≠ c ∧ (∀ j ∈ cone w (w.ops.size + 1) o, j ∉ reach w ((w.ops.size + 1) + 1) c) ∧
    c ∉ cone w (w.ops.size + 1) o ∧ c ∉ reach w ((w.ops.size + 1) + 1) c ∧
    (∀ j ∈ cone w (w.ops.size + 1) o, (w.operations c).1.op j = w.op j) ∧ (w.operations c).1.op c = w.op c := by
  obtain ⟨ht, hfuel, hcomp, hapart, hrange, hbuilt, hsingle⟩ := H
  have hdec : (w.operations c).1 = (w.decomposed ((w.ops.size + 1) + 1) c).1 := rfl
  have hXr : ∀ j ∈ cone w (w.ops.size + 1) o, j ∉ reach w ((w.ops.size + 1) + 1) c := fun j hj h =>
    hapart j hj (reach_sub_below w f _ c ht hfuel hcomp h)
  have hcr : c ∉ reach w ((w.ops.size + 1) + 1) c := not_mem_reach_self w f _ c ht hfuel hcomp
  refine ⟨fun e => hapart o (self_mem_cone w _ o) (e ▸ ht.self_mem), hXr, fun h => hapart c h ht.self_mem, hcr, ?_, ?_⟩
  · intro j hj
    rw [hdec]; exact decomposed_frame _ c w j (hXr j hj)
  · rw [hdec]; exact decomposed_frame _ c w c hcr

/-- … so the three tests of `add_to_graph` (own relation, reference node, last node sharing a channel) are answered as
    before the listing. -/
theorem add_listed_eq (w : World) (f c o : Nat) (H : AddOk w f c o) :
    (w.operations c).1.add c o =
      addW (addDec (w.hasRel o) (w.leafAtAny (w.op c).graph (w.chansOf o)) (w.refOf (w.op o).link) (w.op c).graph).1
        (attach (w.op c).graph
          (addDec (w.hasRel o) (w.leafAtAny (w.op c).graph (w.chansOf o)) (w.refOf (w.op o).link) (w.op c).graph).2 o)
        c o (w.operations c).1 := by
  obtain ⟨_, _, _, _, hopX, hopc⟩ := addOk_facts w f c o H
  exact add_same_decision (operations_shape w c) (operations_ops_size w c) (operations_links w c) c o
    (hopX o (self_mem_cone w _ o)) hopc H.single

/-- **`add` after a listing takes the decision `add` takes without it**: both are the same explicit transformation
    `addW k G c o` (same new link or none, same warning, same new graph `G` of `c`) of their respective heaps. -/
theorem add_after_listing (w : World) (f c o : Nat) (H : AddOk w f c o) :
    ∃ (k : Option (Nat × Bool × Link)) (G : List Entry),
      (w.operations c).1.add c o = addW k G c o (w.operations c).1 ∧ w.add c o = addW k G c o w :=
  ⟨_, _, add_listed_eq w f c o H, add_eq w c o⟩

/-- **a listing before `add` does not change what `add` and a later listing produce**: heaps and sequences agree. -/
theorem listing_then_add (w : World) (f c o : Nat) (H : AddOk w f c o) :
    ((w.operations c).1.add c o).operations c = (w.add c o).operations c := by
  obtain ⟨hoc, hXr, hXc, hcr, hopX, hopc⟩ := addOk_facts w f c o H
  have hadd := add_listed_eq w f c o H
  obtain ⟨ht, hfuel, hcomp, hapart, hrange, hbuilt, hsingle⟩ := H
  have hc : c < w.ops.size := ht.lt
  have hfresh : o ∉ w.below f c := hapart o (self_mem_cone w _ o)
  have hs1 : Shape (w.operations c).1 w := operations_shape w c
  have hsz1 : (w.operations c).1.ops.size = w.ops.size := operations_ops_size w c
  have hl1 : (w.operations c).1.links = w.links := operations_links w c
  have hO1 : OpsOnly w (w.operations c).1 := decomposed_opsOnly _ c w
  have hdec : (w.operations c).1 = (w.decomposed ((w.ops.size + 1) + 1) c).1 := rfl
  generalize hw1 : (w.operations c).1 = w1 at hs1 hsz1 hl1 hO1 hdec hopX hopc hadd
  have hopo : w1.op o = w.op o := hopX o (self_mem_cone w _ o)
  rw [hadd, add_eq w c o]
  generalize hdecn : addDec (w.hasRel o) (w.leafAtAny (w.op c).graph (w.chansOf o)) (w.refOf (w.op o).link)
    (w.op c).graph = dec
  -- the new graph lists `o` somewhere inside the old listing
  have hpar : ∀ q, dec.2 = some q → inGraph (w.op c).graph q = true := by
    rw [← hdecn]
    apply addDec_parent
    intro lf hlf'
    exact inGraph_iff.mpr (Flat.leafAtAny_some_inGraph hlf')
  have hnew : inGraph (w.op c).graph o = false := by
    rw [inGraph_false_iff]
    intro e he heo
    apply hfresh
    cases f with
    | zero => exact ht.elim
    | succ f =>
      rw [mem_below_comp w f c o hcomp]
      right
      have hk : o ∈ w.kids c := by
        unfold World.kids; exact List.mem_map.mpr ⟨e, he, heo⟩
      exact ⟨o, hk, (ht.kid hcomp hk).self_mem⟩
  obtain ⟨A, B, hG, hg⟩ := listing_attach_insert hbuilt dec.2 o hpar hnew
  have hrange1 : ∀ j, (w1.op j).link < w1.links.size := by
    intro j
    obtain ⟨k, hk⟩ := (Flat.operations_dinv w c).used j
    rw [hw1] at hk
    rw [hk, hl1]; exact hrange k
  have hcone1 : cone w1 (w.ops.size + 1) o = cone w (w.ops.size + 1) o := cone_shape hs1 _ o
  have ch := add_listing_char w dec.1 (attach (w.op c).graph dec.2 o) c o (w.ops.size + 1) A B hc hoc hrange hXr hXc
    hcr hG hg
  have ch1 := add_listing_char w1 dec.1 (attach (w.op c).graph dec.2 o) c o (w.ops.size + 1) A B
    (by rw [hsz1]; exact hc) hoc hrange1 (by rw [hcone1, reach_shape hs1]; exact hXr) (by rw [hcone1]; exact hXc)
    (by rw [reach_shape hs1]; exact hcr) hG (by rw [hopc]; exact hg)
  rw [hcone1, hopc] at ch1
  -- a second listing of the listed heap is the identity
  have hidem : (w1.decomposed ((w.ops.size + 1) + 1) c).1 = w1 := by
    rw [hdec]; exact decomposed_idem w f _ c ht hfuel hcomp
  show (addW dec.1 (attach (w.op c).graph dec.2 o) c o w1).operations c =
    (addW dec.1 (attach (w.op c).graph dec.2 o) c o w).operations c
  generalize hG' : attach (w.op c).graph dec.2 o = G at *
  have hUs : (addW dec.1 G c o w1).ops.size = (addW dec.1 G c o w).ops.size := by
    rw [addW_size, addW_size, hsz1]
  have hUO : OpsOnly (addW dec.1 G c o w) (addW dec.1 G c o w1) := addW_opsOnly dec.1 G c o hO1
  have hUsh : Shape (addW dec.1 G c o w1) (addW dec.1 G c o w) := addW_shape dec.1 G c o hs1 hsz1
  have hlsz : w1.links.size = w.links.size := by rw [hl1]
  have hUX : ∀ j ∈ cone w (w.ops.size + 1) o, (addW dec.1 G c o w1).op j = (addW dec.1 G c o w).op j := fun j hj =>
    addW_op_congr dec.1 G c o hsz1 hlsz j hopo hopc (hopX j hj)
  have hUc : (addW dec.1 G c o w1).op c = (addW dec.1 G c o w).op c :=
    addW_op_congr dec.1 G c o hsz1 hlsz c hopo hopc hopc
  have hUl : (addW dec.1 G c o w1).links = (addW dec.1 G c o w).links := hUO.links
  -- the step at `o` does the same in both heaps
  have hconeU : cone (addW dec.1 G c o w) (w.ops.size + 1) o = cone w (w.ops.size + 1) o :=
    cone_congr w _ _ o (fun j hj => addW_noLink dec.1 G c o w j (fun e => hXc (e ▸ hj)))
  have hstep := wstep_local (w.ops.size + 1) (w.op c).link (cone w (w.ops.size + 1) o)
    (y := addW dec.1 G c o w) (z := addW dec.1 G c o w1) ⟨hUs, hUl, hUX⟩ o (fun j hj => hconeU ▸ hj)
  unfold World.operations
  rw [depthFuel_eq, depthFuel_eq, hUs, addW_size]
  apply Prod.ext
  · obtain ⟨c1, c2, c3, c4⟩ := ch
    obtain ⟨d1, d2, d3, d4⟩ := ch1
    rw [hsz1] at d1
    rw [hidem] at d2
    rw [← hdec] at c2
    have hops : ((addW dec.1 G c o w1).decomposed ((w.ops.size + 1) + 1) c).1.ops =
        ((addW dec.1 G c o w).decomposed ((w.ops.size + 1) + 1) c).1.ops := by
      apply ops_ext (by rw [d1, c1])
      intro j
      by_cases hjX : j ∈ cone w (w.ops.size + 1) o
      · rw [d4 j hjX, c4 j hjX]
        exact hstep.2.2 j hjX
      · by_cases hjc : j = c
        · rw [hjc, d3, c3, hUc]
        · rw [d2 j hjX hjc, c2 j hjX hjc]
    have e1 := hUO.trans (decomposed_opsOnly ((w.ops.size + 1) + 1) c (addW dec.1 G c o w1))
    have e2 := decomposed_opsOnly ((w.ops.size + 1) + 1) c (addW dec.1 G c o w)
    unfold OpsOnly at e1 e2
    rw [e1, e2, hops]
  · rw [(decomposed_spec (addW dec.1 G c o w) _ c _ hUsh).2,
      (decomposed_spec (addW dec.1 G c o w) _ c _ (Shape.refl _)).2]

end Qco.Commute
