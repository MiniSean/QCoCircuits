import QcoVerif.Model.OpenQL
import QcoVerif.Lemmas.Export
/-
  Helper lemmas for C15: the stack machine on a run of kernel calls, flat circuits, bracket-depth bookkeeping of
  `ownCalls`.  Core Lean only.
-/
namespace Qco

def flat (w : World) (c : Nat) : Prop := ∀ n ∈ listing (w.op c).graph, (w.op n).isComp = false

theorem foldl_calls (cs : List QCall) (f : QFrame) (fs : List QFrame) (last : List (List QCall)) :
    (cs.map QTok.call).foldl qlStep (f :: fs, last) = ({ f with kernel := f.kernel ++ cs } :: fs, last) := by
  induction cs generalizing f with
  | nil => simp
  | cons c cs ih =>
    simp only [List.map_cons, List.foldl_cons, qlStep]
    rw [ih]
    simp [List.append_assoc]

theorem leafListing_flat (w : World) (c : Nat) (h : flat w c) (f : Nat) :
    w.leafListing (f + 1) c = listing (w.op c).graph := by
  simp only [World.leafListing]
  rw [flatMap_congr' (g := fun n => [n])]
  · simp [List.flatMap_singleton']
  · intro n hn
    simp [h n hn]

/-- a run of kernel calls belongs to the outermost kernel exactly at bracket depth 1. -/
theorem ownCalls_calls (k : Nat) (cs : List QCall) (rest : List QTok) :
    ownCalls k (cs.map .call ++ rest) = (if k = 1 then cs else []) ++ ownCalls k rest := by
  induction cs with
  | nil => simp
  | cons c cs ih =>
    simp only [List.map_cons, List.cons_append, ownCalls, ih]
    by_cases hk : k = 1 <;> simp [hk]

theorem ownCalls_adds (k m : Nat) (rest : List QTok) :
    ownCalls k (List.replicate m .addProgram ++ rest) = ownCalls k rest := by
  induction m with
  | zero => rfl
  | succ m ih => simp only [List.replicate_succ, List.cons_append, ownCalls, ih]

/-- a complete `construct` trace below the outermost one contributes nothing to the outermost kernel. -/
theorem ownCalls_skip (w : World) :
    ∀ (f c depth : Nat) (top : List Cls) (k : Nat), 1 ≤ k → ∀ rest,
      ownCalls k (w.qlWalk f c depth top ++ rest) = ownCalls k rest := by
  intro f
  induction f with
  | zero => intro c depth top k _ rest; rfl
  | succ f ih =>
    intro c depth top k hk rest
    simp only [World.qlWalk, List.cons_append, List.nil_append, List.append_assoc, ownCalls]
    generalize (if (depth == 0) = true then w.qlSeq c else top) = top'
    have inner : ∀ (L : List Nat) (rest' : List QTok),
        ownCalls (k + 1) (L.flatMap (fun n =>
          if (w.op n).isComp then
            w.qlWalk f n (depth + 1) top' ++ List.replicate (w.repCount (w.op n).rep) .addProgram
          else (w.qlCalls (w.op n)).map .call) ++ rest') = ownCalls (k + 1) rest' := by
      intro L
      induction L with
      | nil => intro rest'; rfl
      | cons n ns ihL =>
        intro rest'
        simp only [List.flatMap_cons, List.append_assoc]
        by_cases hc : (w.op n).isComp = true
        · simp only [hc, if_true, List.append_assoc]
          rw [ih n (depth + 1) top' (k + 1) (by omega), ownCalls_adds, ihL]
        · have hc' : (w.op n).isComp = false := by simpa using hc
          simp only [hc', Bool.false_eq_true, if_false]
          rw [ownCalls_calls, if_neg (by omega), List.nil_append, ihL]
    rw [inner]
    simp [ownCalls]

end Qco
