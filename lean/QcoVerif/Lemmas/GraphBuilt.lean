import QcoVerif.Lemmas.Graph
import QcoVerif.Lemmas.Export
/-
  Relation trees built by `attach` only (`Built`): every entry was attached under the root or under a node already
  present, as a node not yet present.  Every graph of the model is of this kind (`World.addToGraph` ends in `attach`).
  The copy and flatten proofs rest on two facts: the listing order of a built tree is again a build order
  (`built_sortedEntries`: re-attaching the nodes in listing order reproduces the same path keys), and so is its image
  under a node map that is injective on the nodes (`attach_image`, `built_image`).  No heap; core Lean only.
-/
namespace Qco

/-- the path key of the parent (`[]` for the root) as `attach` computes it. -/
def baseKey (g : List Entry) (p : Option Nat) : List Nat :=
  match p with
  | none => []
  | some q => ((entryOf? g q).map (·.key)).getD []

theorem attach_def (g : List Entry) (p : Option Nat) (n : Nat) :
    attach g p n = g ++ [{ node := n, parent := p, key := baseKey g p ++ [sibCount g p] }] := by
  cases p <;> rfl

theorem inGraph_iff {g : List Entry} {n : Nat} : inGraph g n = true ↔ ∃ e ∈ g, e.node = n := by
  simp [inGraph]

theorem inGraph_false_iff {g : List Entry} {n : Nat} : inGraph g n = false ↔ ∀ e ∈ g, e.node ≠ n := by
  simp [inGraph]

theorem inGraph_append (g h : List Entry) (n : Nat) : inGraph (g ++ h) n = (inGraph g n || inGraph h n) := by
  simp [inGraph]

theorem sibCount_append (g h : List Entry) (p : Option Nat) : sibCount (g ++ h) p = sibCount g p + sibCount h p := by
  simp [sibCount]

theorem sibCount_snoc (g : List Entry) (x : Entry) (p : Option Nat) :
    sibCount (g ++ [x]) p = sibCount g p + (if x.parent = p then 1 else 0) := by
  simp only [sibCount, List.filter_append, List.length_append]
  by_cases h : x.parent = p
  · simp [h]
  · simp [h]

theorem baseKey_append {g : List Entry} {q : Nat} (h : inGraph g q = true) (g' : List Entry) :
    baseKey (g ++ g') (some q) = baseKey g (some q) := by
  simp only [baseKey, entryOf?, List.find?_append]
  obtain ⟨e, he, hq⟩ := inGraph_iff.mp h
  cases hf : g.find? (fun e => e.node == q) with
  | none =>
    rw [List.find?_eq_none] at hf
    have := hf e he
    simp [hq] at this
  | some x => simp

/-- the graph was built by `attach` only: at every split `g1 ++ e :: g2`, `e` is the entry that
    `attach g1 e.parent e.node` appends to `g1`. -/
def Built (g : List Entry) : Prop :=
  ∀ g1 e g2, g = g1 ++ e :: g2 →
    inGraph g1 e.node = false ∧ (∀ q, e.parent = some q → inGraph g1 q = true) ∧
    e.key = baseKey g1 e.parent ++ [sibCount g1 e.parent]

theorem built_nil : Built [] := by
  intro g1 e g2 h
  simp at h

theorem Built.prefix {g h : List Entry} (hb : Built (g ++ h)) : Built g := by
  intro g1 e g2 heq
  exact hb g1 e (g2 ++ h) (by rw [heq]; simp)

theorem Built.last {g : List Entry} {e : Entry} (hb : Built (g ++ [e])) :
    inGraph g e.node = false ∧ (∀ q, e.parent = some q → inGraph g q = true) ∧
    e.key = baseKey g e.parent ++ [sibCount g e.parent] := hb g e [] rfl

theorem built_snoc {g : List Entry} {e : Entry} (hb : Built g) (h1 : inGraph g e.node = false)
    (h2 : ∀ q, e.parent = some q → inGraph g q = true)
    (h3 : e.key = baseKey g e.parent ++ [sibCount g e.parent]) : Built (g ++ [e]) := by
  intro g1 x g2 heq
  rcases snoc_eq_append_cons heq with ⟨_, h', hx⟩ | ⟨g2', _, h'⟩
  · subst h'; subst hx; exact ⟨h1, h2, h3⟩
  · exact hb g1 x g2' h'

theorem built_attach {g : List Entry} (hb : Built g) (p : Option Nat) (n : Nat)
    (hp : ∀ q, p = some q → inGraph g q = true) (hn : inGraph g n = false) : Built (attach g p n) := by
  rw [attach_def]
  exact built_snoc hb hn hp rfl

theorem Built.mem_cond {g : List Entry} (hb : Built g) {e : Entry} (he : e ∈ g) :
    ∃ g1 g2, g = g1 ++ e :: g2 ∧ inGraph g1 e.node = false ∧ (∀ q, e.parent = some q → inGraph g1 q = true) ∧
      e.key = baseKey g1 e.parent ++ [sibCount g1 e.parent] := by
  obtain ⟨g1, g2, h⟩ := List.append_of_mem he
  exact ⟨g1, g2, h, hb g1 e g2 h⟩

theorem Built.nodup {g : List Entry} (hb : Built g) : (g.map (·.node)).Nodup := by
  induction g using snoc_induction with
  | hnil => simp
  | hsnoc g e ih =>
    have h1 := (Built.last hb).1
    rw [List.map_append, List.nodup_append]
    refine ⟨ih hb.prefix, by simp, ?_⟩
    intro a ha b hb'
    simp only [List.map_cons, List.map_nil, List.mem_singleton] at hb'
    subst hb'
    obtain ⟨x, hx, hxa⟩ := List.mem_map.mp ha
    have := inGraph_false_iff.mp h1 x hx
    intro heq; exact this (hxa.trans heq)

theorem node_unique {g : List Entry} (hn : (g.map (·.node)).Nodup) {a b : Entry} (ha : a ∈ g) (hb : b ∈ g)
    (h : a.node = b.node) : a = b := by
  induction g with
  | nil => cases ha
  | cons x xs ih =>
    simp only [List.map_cons, List.nodup_cons, List.mem_map, not_exists, not_and] at hn
    rcases List.mem_cons.mp ha with rfl | ha' <;> rcases List.mem_cons.mp hb with rfl | hb'
    · rfl
    · exact absurd h.symm (hn.1 b hb')
    · exact absurd h (hn.1 a ha')
    · exact ih hn.2 ha' hb'

theorem entryOf_of_mem {g : List Entry} {sub : List Entry} (hn : (g.map (·.node)).Nodup)
    (hsub : ∀ x ∈ sub, x ∈ g) {pe : Entry} (hpe : pe ∈ sub) : entryOf? sub pe.node = some pe := by
  unfold entryOf?
  cases hf : sub.find? (fun e => e.node == pe.node) with
  | none =>
    rw [List.find?_eq_none] at hf
    have := hf pe hpe
    simp at this
  | some x =>
    have hx : x ∈ sub := List.mem_of_find?_eq_some hf
    have hxn : x.node = pe.node := by simpa using List.find?_some hf
    rw [node_unique hn (hsub x hx) (hsub pe hpe) hxn]

theorem baseKey_of_mem {g : List Entry} {sub : List Entry} (hn : (g.map (·.node)).Nodup)
    (hsub : ∀ x ∈ sub, x ∈ g) {pe : Entry} (hpe : pe ∈ sub) : baseKey sub (some pe.node) = pe.key := by
  simp only [baseKey]
  rw [entryOf_of_mem hn hsub hpe]
  rfl

theorem Built.parent_mem {g : List Entry} (hb : Built g) {e : Entry} (he : e ∈ g) {q : Nat}
    (hq : e.parent = some q) : ∃ pe ∈ g, pe.node = q ∧ e.key = pe.key ++ [e.key.getLast?.getD 0] ∧
      pe.key.length < e.key.length := by
  obtain ⟨g1, g2, hg, _, h2, h3⟩ := hb.mem_cond he
  obtain ⟨pe, hpe, hpq⟩ := inGraph_iff.mp (h2 q hq)
  have hsub : ∀ x ∈ g1, x ∈ g := by intro x hx; rw [hg]; simp [hx]
  have hk : baseKey g1 (some q) = pe.key := by
    rw [← hpq]; exact baseKey_of_mem hb.nodup hsub hpe
  rw [hq, hk] at h3
  refine ⟨pe, hsub pe hpe, hpq, ?_, ?_⟩
  · rw [h3]; simp
  · rw [h3]; simp

theorem Built.key_ne_nil {g : List Entry} (hb : Built g) {e : Entry} (he : e ∈ g) : e.key ≠ [] := by
  obtain ⟨g1, g2, _, _, _, h3⟩ := hb.mem_cond he
  rw [h3]; simp

theorem Built.root_iff {g : List Entry} (hb : Built g) {e : Entry} (he : e ∈ g) :
    e.parent = none ↔ e.key.length = 1 := by
  constructor
  · intro h
    obtain ⟨g1, g2, _, _, _, h3⟩ := hb.mem_cond he
    rw [h3, h]; simp [baseKey]
  · intro h
    cases hp : e.parent with
    | none => rfl
    | some q =>
      obtain ⟨pe, hpe, _, _, hlt⟩ := hb.parent_mem he hp
      have := hb.key_ne_nil hpe
      have : 0 < pe.key.length := List.length_pos_iff.mpr this
      omega

/-! ### siblings carry the keys `base ++ [0], base ++ [1], …` in insertion order -/

theorem Built.sibKeys {g : List Entry} (hb : Built g) (P : Option Nat) :
    (g.filter (fun e => e.parent == P)).map (·.key) =
      (List.range (sibCount g P)).map (fun j => baseKey g P ++ [j]) := by
  induction g using snoc_induction with
  | hnil => simp [sibCount]
  | hsnoc g e ih =>
    have ih := ih hb.prefix
    obtain ⟨h1, h2, h3⟩ := Built.last hb
    -- the base key of `P` is stable unless `P` has no child yet
    have hbase : baseKey (g ++ [e]) P = baseKey g P ∨ sibCount g P = 0 := by
      cases P with
      | none => left; rfl
      | some q =>
        by_cases hq : inGraph g q = true
        · left; exact baseKey_append hq _
        · right
          unfold sibCount
          rw [List.length_eq_zero_iff, List.filter_eq_nil_iff]
          intro x hx hxp
          have hxp' : x.parent = some q := by simpa using hxp
          obtain ⟨pe, hpe, hpq, _⟩ := hb.prefix.parent_mem hx hxp'
          exact hq (inGraph_iff.mpr ⟨pe, hpe, hpq⟩)
    by_cases hP : e.parent = P
    · have hf : (g ++ [e]).filter (fun e => e.parent == P) = g.filter (fun e => e.parent == P) ++ [e] := by
        rw [List.filter_append]; simp [hP]
      have hc : sibCount (g ++ [e]) P = sibCount g P + 1 := by
        unfold sibCount; rw [hf]; simp
      have hbk : baseKey (g ++ [e]) P = baseKey g P := by
        cases P with
        | none => rfl
        | some q => exact baseKey_append (h2 q hP) _
      rw [hf, hc, List.range_succ, List.map_append, List.map_append, ih, hbk]
      simp only [List.map_cons, List.map_nil]
      rw [h3, hP]
    · have hf : (g ++ [e]).filter (fun e => e.parent == P) = g.filter (fun e => e.parent == P) := by
        rw [List.filter_append]; simp [hP]
      have hc : sibCount (g ++ [e]) P = sibCount g P := by
        unfold sibCount; rw [hf]
      rw [hf, hc, ih]
      rcases hbase with hbase | hbase
      · rw [hbase]
      · rw [hbase]; rfl

theorem keyLe_antisymm {a b : List Nat} (h1 : keyLe a b = true) (h2 : keyLe b a = true) : a = b := by
  simp only [keyLe, Bool.or_eq_true, decide_eq_true_eq, Bool.and_eq_true, beq_iff_eq, Bool.not_eq_true'] at h1 h2
  have hl : a.length = b.length := by
    rcases h1 with h1 | ⟨h1, _⟩ <;> rcases h2 with h2 | ⟨h2, _⟩ <;> omega
  have hba : lexLt b a = false := by
    rcases h1 with h1 | ⟨_, h1⟩
    · omega
    · exact h1
  have hab : lexLt a b = false := by
    rcases h2 with h2 | ⟨_, h2⟩
    · omega
    · exact h2
  rcases lexLt_total a b hl with h | h | h
  · rw [hab] at h; cases h
  · exact h
  · rw [hba] at h; cases h

theorem lexLt_snoc (pre : List Nat) (i j : Nat) : lexLt (pre ++ [i]) (pre ++ [j]) = decide (i < j) := by
  induction pre with
  | nil => simp [lexLt]
  | cons x xs ih => simp [lexLt, ih]

theorem keyLe_snoc (pre : List Nat) (i j : Nat) : keyLe (pre ++ [i]) (pre ++ [j]) = decide (i ≤ j) := by
  simp only [keyLe, List.length_append, List.length_cons, List.length_nil, Nat.lt_irrefl, decide_false, beq_self_eq_true,
    lexLt_snoc, Bool.true_and, Bool.false_or]
  by_cases h : i ≤ j
  · simp [h, Nat.not_lt.mpr h]
  · simp [h, Nat.lt_of_not_le h]

theorem mem_sortedEntries {g : List Entry} {e : Entry} : e ∈ sortedEntries g ↔ e ∈ g :=
  (sortedEntries_perm g).mem_iff

theorem sortedEntries_nodup {g : List Entry} (h : (g.map (·.node)).Nodup) :
    ((sortedEntries g).map (·.node)).Nodup :=
  ((sortedEntries_perm g).map _).nodup_iff.mpr h

theorem sorted_split_depth {g A B : List Entry} {e : Entry} (hs : sortedEntries g = A ++ e :: B) :
    (∀ a ∈ A, a.key.length ≤ e.key.length) ∧ (∀ b ∈ B, e.key.length ≤ b.key.length) := by
  have := sortedEntries_depth_sorted g
  rw [hs, List.pairwise_append] at this
  refine ⟨fun a ha => this.2.2 a ha e (by simp), fun b hb => ?_⟩
  have h2 := this.2.1
  rw [List.pairwise_cons] at h2
  exact h2.1 b hb

theorem getElem?_append_cons_length {α} (l1 l2 : List α) (x : α) : (l1 ++ x :: l2)[l1.length]? = some x := by
  simp

/-- **the listing order is a build order**: re-attaching in listing order gives every entry the key it has. -/
theorem built_sortedEntries {g : List Entry} (hb : Built g) : Built (sortedEntries g) := by
  intro A e B hs
  have hperm := sortedEntries_perm g
  have hnd : ((sortedEntries g).map (·.node)).Nodup := sortedEntries_nodup hb.nodup
  have heS : e ∈ sortedEntries g := by rw [hs]; simp
  have heg : e ∈ g := mem_sortedEntries.mp heS
  have hAsub : ∀ x ∈ A, x ∈ g := by
    intro x hx; apply mem_sortedEntries.mp; rw [hs]; simp [hx]
  obtain ⟨hdA, hdB⟩ := sorted_split_depth hs
  -- (1) the node is new
  have c1 : inGraph A e.node = false := by
    rw [hs, List.map_append, List.nodup_append] at hnd
    rw [inGraph_false_iff]
    intro x hx hxe
    exact hnd.2.2 x.node (List.mem_map.mpr ⟨x, hx, rfl⟩) e.node (by simp) hxe
  -- (2) the parent is listed before
  have c2 : ∀ q, e.parent = some q → ∃ pe ∈ A, pe.node = q ∧ pe ∈ g := by
    intro q hq
    obtain ⟨pe, hpe, hpq, _, hlt⟩ := hb.parent_mem heg hq
    have hpeS : pe ∈ sortedEntries g := mem_sortedEntries.mpr hpe
    rw [hs, List.mem_append, List.mem_cons] at hpeS
    rcases hpeS with h | h | h
    · exact ⟨pe, h, hpq, hpe⟩
    · subst h; omega
    · have := hdB pe h; omega
  obtain ⟨g1, g2, hg, _, k2, k3⟩ := hb.mem_cond heg
  have hg1sub : ∀ x ∈ g1, x ∈ g := by intro x hx; rw [hg]; simp [hx]
  have hbase : baseKey A e.parent = baseKey g1 e.parent := by
    cases hp : e.parent with
    | none => rfl
    | some q =>
      obtain ⟨pe, hpeA, hpq, _⟩ := c2 q hp
      obtain ⟨pe', hpe', hpq'⟩ := inGraph_iff.mp (k2 q hp)
      have : pe = pe' := node_unique hb.nodup (hAsub pe hpeA) (hg1sub pe' hpe') (hpq.trans hpq'.symm)
      subst this
      rw [← hpq, baseKey_of_mem hb.nodup hAsub hpeA, baseKey_of_mem hb.nodup hg1sub hpe']
  -- (3) the sibling index is the number of siblings listed before
  have hcount : sibCount A e.parent = sibCount g1 e.parent := by
    have hsk := hb.sibKeys e.parent
    -- the siblings in listing order are a sorted permutation of the siblings in insertion order
    have hp2 : ((sortedEntries g).filter (fun x => x.parent == e.parent)).map (·.key) =
        (List.range (sibCount g e.parent)).map (fun j => baseKey g e.parent ++ [j]) := by
      apply List.Perm.eq_of_pairwise (le := fun a b => keyLe a b = true)
      · intro a b _ _ h1 h2; exact keyLe_antisymm h1 h2
      · rw [List.pairwise_map]
        exact ((sortedEntries_pairwise g).sublist List.filter_sublist).imp (fun h => h)
      · rw [List.pairwise_map]
        refine (List.pairwise_lt_range (n := sibCount g e.parent)).imp ?_
        intro i j hij
        rw [keyLe_snoc]; simp; omega
      · rw [← hsk]; exact (hperm.filter _).map _
    rw [hs, List.filter_append, List.filter_cons] at hp2
    simp only [beq_self_eq_true, if_true, List.map_append, List.map_cons] at hp2
    have hget := getElem?_append_cons_length ((A.filter (fun x => x.parent == e.parent)).map (·.key))
      ((B.filter (fun x => x.parent == e.parent)).map (·.key)) e.key
    rw [hp2, List.length_map] at hget
    rw [List.getElem?_map] at hget
    have hlt : (A.filter (fun x => x.parent == e.parent)).length < sibCount g e.parent := by
      rcases Nat.lt_or_ge (A.filter (fun x => x.parent == e.parent)).length (sibCount g e.parent) with hge | hge
      · exact hge
      · rw [List.getElem?_eq_none (by simp; omega)] at hget
        simp at hget
    rw [List.getElem?_range hlt] at hget
    simp only [Option.map_some, Option.some.injEq] at hget
    -- compare with the key computed in insertion order
    have hbg : baseKey g e.parent = baseKey g1 e.parent := by
      cases hp : e.parent with
      | none => rfl
      | some q => rw [hg]; exact baseKey_append (k2 q hp) _
    rw [k3, hbg] at hget
    have := List.append_inj' hget rfl
    have h2 := this.2
    simp only [List.cons.injEq, and_true] at h2
    unfold sibCount at h2 ⊢
    exact h2
  refine ⟨c1, ?_, ?_⟩
  · intro q hq
    obtain ⟨pe, hpeA, hpq, _⟩ := c2 q hq
    exact inGraph_iff.mpr ⟨pe, hpeA, hpq⟩
  · rw [hbase, hcount]; exact k3

def Entry.image (φ : Nat → Nat) (e : Entry) : Entry :=
  { node := φ e.node, parent := e.parent.map φ, key := e.key }

@[simp] theorem Entry.image_node (φ : Nat → Nat) (e : Entry) : (e.image φ).node = φ e.node := rfl
@[simp] theorem Entry.image_parent (φ : Nat → Nat) (e : Entry) : (e.image φ).parent = e.parent.map φ := rfl
@[simp] theorem Entry.image_key (φ : Nat → Nat) (e : Entry) : (e.image φ).key = e.key := rfl

def InjOn (φ : Nat → Nat) (S : List Entry) : Prop :=
  ∀ a ∈ S, ∀ b ∈ S, φ a.node = φ b.node → a.node = b.node

/-- re-attaching the image of the next entry to the image of a prefix of a built list gives the image of the longer
    prefix — **the copy's `add` computes the same path key**. -/
theorem attach_image {S A B : List Entry} {e : Entry} (hb : Built S) (hs : S = A ++ e :: B) (φ : Nat → Nat)
    (hφ : InjOn φ S) :
    attach (A.map (Entry.image φ)) (e.parent.map φ) (φ e.node) = (A ++ [e]).map (Entry.image φ) ∧
    inGraph (A.map (Entry.image φ)) (φ e.node) = false ∧
    (∀ q, e.parent = some q → inGraph (A.map (Entry.image φ)) (φ q) = true) := by
  obtain ⟨h1, h2, h3⟩ := hb A e B hs
  have hAS : ∀ x ∈ A, x ∈ S := by intro x hx; rw [hs]; simp [hx]
  have heS : e ∈ S := by rw [hs]; simp
  have hpar : ∀ x ∈ S, ∀ q, x.parent = some q → ∃ pe ∈ S, pe.node = q := by
    intro x hx q hq
    obtain ⟨pe, hpe, hpq, _⟩ := hb.parent_mem hx hq
    exact ⟨pe, hpe, hpq⟩
  have hsib : sibCount (A.map (Entry.image φ)) (e.parent.map φ) = sibCount A e.parent := by
    unfold sibCount
    rw [List.filter_map, List.length_map]
    congr 1
    apply List.filter_congr
    intro x hx
    simp only [Function.comp, Entry.image_parent]
    cases hxp : x.parent with
    | none => cases e.parent <;> simp
    | some a =>
      cases hep : e.parent with
      | none => simp
      | some b =>
        obtain ⟨pa, hpa, hpan⟩ := hpar x (hAS x hx) a hxp
        obtain ⟨pb, hpb, hpbn⟩ := hpar e heS b hep
        simp only [Option.map_some, Option.some.injEq, Bool.beq_eq_decide_eq, decide_eq_decide]
        constructor
        · intro h
          have := hφ pa hpa pb hpb (by rw [hpan, hpbn]; exact h)
          rw [hpan, hpbn] at this; exact this
        · intro h; rw [h]
  have hbase : baseKey (A.map (Entry.image φ)) (e.parent.map φ) = baseKey A e.parent := by
    cases hep : e.parent with
    | none => rfl
    | some b =>
      obtain ⟨pb, hpb, hpbn⟩ := hpar e heS b hep
      simp only [Option.map_some, baseKey, entryOf?]
      rw [List.find?_map]
      have : A.find? ((fun x => x.node == φ b) ∘ Entry.image φ) = A.find? (fun x => x.node == b) := by
        apply find?_congr'
        intro x hx
        simp only [Function.comp, Entry.image_node]
        have : (φ x.node = φ b) ↔ x.node = b := by
          constructor
          · intro h
            have := hφ x (hAS x hx) pb hpb (by rw [hpbn]; exact h)
            rw [hpbn] at this; exact this
          · intro h; rw [h]
        rw [Bool.eq_iff_iff]
        simp only [beq_iff_eq]
        exact this
      rw [this]
      cases A.find? (fun x => x.node == b) <;> simp
  refine ⟨?_, ?_, ?_⟩
  · rw [attach_def, hsib, hbase, List.map_append, ← h3]
    rfl
  · rw [inGraph_false_iff]
    intro x hx hxe
    obtain ⟨y, hy, hyx⟩ := List.mem_map.mp hx
    subst hyx
    simp only [Entry.image_node] at hxe
    have := hφ y (hAS y hy) e heS hxe
    exact inGraph_false_iff.mp h1 y hy this
  · intro q hq
    obtain ⟨pe, hpe, hpq⟩ := inGraph_iff.mp (h2 q hq)
    exact inGraph_iff.mpr ⟨pe.image φ, List.mem_map.mpr ⟨pe, hpe, rfl⟩, by simp [hpq]⟩

theorem built_image {S : List Entry} (hb : Built S) (φ : Nat → Nat) (hφ : InjOn φ S) :
    Built (S.map (Entry.image φ)) := by
  intro g1 x g2 heq
  obtain ⟨A, R, hS, hA, hR⟩ := List.map_eq_append_iff.mp heq
  obtain ⟨e, B, hR', he, _⟩ := List.map_eq_cons_iff.mp hR
  subst hR'
  subst hA
  subst he
  obtain ⟨a1, a2, a3⟩ := attach_image hb hS φ hφ
  refine ⟨a2, ?_, ?_⟩
  · intro q hq
    simp only [Entry.image_parent] at hq
    cases hep : e.parent with
    | none => rw [hep] at hq; simp at hq
    | some b =>
      rw [hep] at hq
      simp only [Option.map_some, Option.some.injEq] at hq
      subst hq
      exact a3 b hep
  · rw [attach_def, List.map_append] at a1
    have := List.append_inj' a1 rfl
    have h2 := this.2
    simp only [List.map_cons, List.map_nil, List.cons.injEq, and_true] at h2
    have := congrArg Entry.key h2
    simp only [Entry.image_key, Entry.image_parent] at this ⊢
    exact this.symm

/-- the image has the same keys, so it is sorted if the original is: listing commutes with the image. -/
theorem sortedEntries_image (S : List Entry) (φ : Nat → Nat) (h : S.Pairwise (fun a b => entryLe a b = true)) :
    sortedEntries (S.map (Entry.image φ)) = S.map (Entry.image φ) := by
  unfold sortedEntries
  apply List.mergeSort_of_pairwise
  rw [List.pairwise_map]
  exact h.imp (fun h => h)

theorem listing_image (g : List Entry) (φ : Nat → Nat) :
    listing ((sortedEntries g).map (Entry.image φ)) = (listing g).map φ := by
  unfold listing
  rw [sortedEntries_image _ φ (sortedEntries_pairwise g)]
  simp [List.map_map, Function.comp]

theorem heads_image (g : List Entry) (φ : Nat → Nat) :
    heads ((sortedEntries g).map (Entry.image φ)) = (heads g).map φ := by
  unfold heads
  rw [sortedEntries_image _ φ (sortedEntries_pairwise g), List.filter_map, List.map_map, List.map_map]
  congr 1
  apply List.filter_congr
  intro x _
  cases h : x.parent <;> simp [h]

/-- the sorted entry list is THE sorted permutation when the path keys are pairwise different (lets one evaluate the
    listing of a graph literal that is not stored in listing order). -/
theorem sortedEntries_eq_of_perm {g L : List Entry} (hp : L.Perm g) (hs : L.Pairwise (fun a b => entryLe a b = true))
    (hk : ∀ a ∈ g, ∀ b ∈ g, a.key = b.key → a = b) : sortedEntries g = L := by
  apply List.Perm.eq_of_pairwise (le := fun a b => entryLe a b = true)
  · intro a b ha hb h1 h2
    exact hk a (mem_sortedEntries.mp ha) b (hp.mem_iff.mp hb) (keyLe_antisymm h1 h2)
  · exact sortedEntries_pairwise g
  · exact hs
  · exact (sortedEntries_perm g).trans hp.symm

theorem sibCount_absent {g : List Entry} (hb : Built g) {o : Nat} (ho : inGraph g o = false) :
    sibCount g (some o) = 0 := by
  unfold sibCount
  rw [List.length_eq_zero_iff, List.filter_eq_nil_iff]
  intro e he hp
  have hp' : e.parent = some o := by simpa using hp
  obtain ⟨pe, hpe, hq, _⟩ := hb.parent_mem he hp'
  have := inGraph_false_iff.mp ho pe hpe
  exact this hq

theorem built_sib_inj {g : List Entry} (hb : Built g) {a b : Entry} (ha : a ∈ g) (hb' : b ∈ g)
    (hp : a.parent = b.parent) (hk : a.key = b.key) : a = b := by
  have hs := hb.sibKeys a.parent
  have hnd : ((g.filter (fun e => e.parent == a.parent)).map (·.key)).Nodup := by
    rw [hs]
    unfold List.Nodup
    rw [List.pairwise_map]
    refine (List.nodup_range (n := sibCount g a.parent)).imp ?_
    intro i j hij h
    apply hij
    have := List.append_inj' h rfl
    simpa using this.2
  exact inj_of_nodup_map (·.key) _ hnd a (List.mem_filter.mpr ⟨ha, by simp⟩) b
    (List.mem_filter.mpr ⟨hb', by simp [hp]⟩) hk

theorem built_key_inj {g : List Entry} (hb : Built g) : ∀ (n : Nat), ∀ a ∈ g, ∀ b ∈ g, a.key.length = n →
    a.key = b.key → a = b := by
  intro n
  induction n using Nat.strongRecOn with
  | _ n ih =>
    intro a ha b hb' hn hk
    have hp : a.parent = b.parent := by
      cases hpa : a.parent with
      | none =>
        have h1 := (hb.root_iff ha).mp hpa
        rw [hk] at h1
        exact ((hb.root_iff hb').mpr h1).symm
      | some q =>
        cases hpb : b.parent with
        | none =>
          have h1 := (hb.root_iff hb').mp hpb
          rw [← hk] at h1
          have := (hb.root_iff ha).mpr h1
          rw [hpa] at this; cases this
        | some q' =>
          obtain ⟨pe, hpe, hq, hka, hlt⟩ := hb.parent_mem ha hpa
          obtain ⟨pe', hpe', hq', hkb, _⟩ := hb.parent_mem hb' hpb
          have h2 : pe.key ++ [a.key.getLast?.getD 0] = pe'.key ++ [b.key.getLast?.getD 0] := by
            rw [← hka, ← hkb]; exact hk
          have h3 := (List.append_inj' h2 rfl).1
          have := ih pe.key.length (by omega) pe hpe pe' hpe' rfl h3
          rw [← hq, ← hq', this]
    exact built_sib_inj hb ha hb' hp hk

end Qco
