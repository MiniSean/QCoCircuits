import QcoVerif.Lemmas.RepCode
/-
  C09, all chain lengths: the fields of `chainDesc (m+1) r` (m ancillas, m+1 data qubits, m ≥ 1) and the
  instruction list of one QEC round in closed form.
-/
namespace Qco.RepChain
open Qco.StimSem Qco.RepCode

def dataL (m : Nat) : List Nat := (List.range (m + 1)).map fun i => 2 * i
def ancL (m : Nat) : List Nat := (List.range m).map fun j => 2 * j + 1

theorem mem_dataL {m q : Nat} : q ∈ dataL m ↔ q % 2 = 0 ∧ q < 2 * m + 1 := by
  simp only [dataL, List.mem_map, List.mem_range]
  constructor
  · rintro ⟨i, hi, rfl⟩; omega
  · rintro ⟨h1, h2⟩; exact ⟨q / 2, by omega, by omega⟩

theorem mem_ancL {m q : Nat} : q ∈ ancL m ↔ q % 2 = 1 ∧ q < 2 * m := by
  simp only [ancL, List.mem_map, List.mem_range]
  constructor
  · rintro ⟨i, hi, rfl⟩; omega
  · rintro ⟨h1, h2⟩; exact ⟨q / 2, by omega, by omega⟩

theorem dataL_length (m : Nat) : (dataL m).length = m + 1 := by simp [dataL]
theorem ancL_length (m : Nat) : (ancL m).length = m := by simp [ancL]

theorem ancL_nodup (m : Nat) : (ancL m).Nodup := by
  rw [ancL, List.Nodup, List.pairwise_map]
  exact List.pairwise_lt_range.imp (by omega)

theorem filter_parity_range (c : Nat) (hc : c < 2) (n : Nat) :
    (List.range n).filter (· % 2 == c) = (List.range ((n + 1 - c) / 2)).map fun j => 2 * j + c := by
  induction n with
  | zero => rw [show (0 + 1 - c) / 2 = 0 by omega]; rfl
  | succ n ih =>
    rw [List.range_succ, List.filter_append, ih]
    by_cases h : n % 2 = c
    · have e : (n + 1 + 1 - c) / 2 = (n + 1 - c) / 2 + 1 := by omega
      have e' : 2 * ((n + 1 - c) / 2) + c = n := by omega
      simp [h, e, List.range_succ, e']
    · have e : (n + 1 + 1 - c) / 2 = (n + 1 - c) / 2 := by omega
      simp [h, e]

/-- first gate layer: CZ (2j, 2j+1) -/
def evenG (m : Nat) : List (Nat × Nat) := (ancL m).map fun t => (t - 1, t)
/-- second gate layer: CZ (2j+1, 2j+2) -/
def oddG (m : Nat) : List (Nat × Nat) := (ancL m).map fun t => (t, t + 1)

theorem chain_dataIdx (m : Nat) (r : Bool) : (chainDesc (m + 1) r).dataIdx = dataL m := by
  have e : 2 * (m + 1) - 1 = 2 * m + 1 := by omega
  simp only [chainDesc, e, filter_parity_range 0 (by omega)]
  rw [show (2 * m + 1 + 1 - 0) / 2 = m + 1 by omega]; rfl

theorem chain_ancIdx (m : Nat) (r : Bool) : (chainDesc (m + 1) r).ancIdx = ancL m := by
  have e : 2 * (m + 1) - 1 = 2 * m + 1 := by omega
  simp only [chainDesc, e, filter_parity_range 1 (by omega)]
  rw [show (2 * m + 1 + 1 - 1) / 2 = m by omega]; rfl

theorem chain_nbr (m : Nat) (r : Bool) :
    (chainDesc (m + 1) r).nbr = (List.range m).map fun j => (2 * j, 2 * j + 2) := rfl

theorem chain_dataIdx_length (n : Nat) (r : Bool) : (chainDesc n r).dataIdx.length = n := by
  match n with
  | 0 => rfl
  | m + 1 => rw [chain_dataIdx, dataL_length]

theorem chain_ancIdx_length (n : Nat) (r : Bool) : (chainDesc n r).ancIdx.length = n - 1 := by
  match n with
  | 0 => rfl
  | m + 1 => rw [chain_ancIdx, ancL_length]; rfl

theorem chain_layers (m : Nat) (hm : 0 < m) (r : Bool) :
    (chainDesc (m + 1) r).layers = [⟨evenG m, []⟩, ⟨oddG m, []⟩] := by
  have e : 2 * (m + 1) - 1 - 1 = 2 * m := by omega
  simp only [chainDesc, e]
  have hk : ∀ c, c < 2 → (2 * m + 1 - c) / 2 = m := fun c hc => by omega
  have h1 : ((List.range (2 * m)).map fun i => (i, i + 1)).filter (fun e => e.1 % 2 == 0) = evenG m := by
    rw [List.filter_map]
    have : ((fun e : Nat × Nat => e.1 % 2 == 0) ∘ fun i => (i, i + 1)) = fun i => i % 2 == 0 := rfl
    rw [this, filter_parity_range 0 (by omega), hk 0 (by omega)]
    simp [evenG, ancL, List.map_map, Function.comp_def]
  have h2 : ((List.range (2 * m)).map fun i => (i, i + 1)).filter (fun e => e.1 % 2 == 1) = oddG m := by
    rw [List.filter_map]
    have : ((fun e : Nat × Nat => e.1 % 2 == 1) ∘ fun i => (i, i + 1)) = fun i => i % 2 == 1 := rfl
    rw [this, filter_parity_range 1 (by omega), hk 1 (by omega)]
    simp [oddG, ancL, List.map_map, Function.comp_def]
  rw [h1, h2]
  obtain ⟨k, rfl⟩ : ∃ k, m = k + 1 := ⟨m - 1, by omega⟩
  simp [evenG, oddG, ancL, List.range_succ_eq_map]

theorem interleave_range' (a k : Nat) :
    interleave (List.range' a (k + 1) 2) (List.range' (a + 1) k 2) = List.range' a (2 * k + 1) := by
  induction k generalizing a with
  | zero => simp [interleave]
  | succ k ih =>
    have e : 2 * (k + 1) + 1 = (2 * k + 1) + 1 + 1 := by omega
    rw [e]
    simp only [List.range'_succ, interleave]
    have := ih (a + 2)
    simp only [List.range'_succ] at this
    simp only [Nat.add_assoc] at this ⊢
    rw [this]

theorem map_range_eq_range' (a s n : Nat) :
    (List.range n).map (fun i => a + s * i) = List.range' a n s := by
  apply List.ext_getElem
  · simp
  · intro i h1 h2
    simp

theorem dataL_eq_range' (m : Nat) : dataL m = List.range' 0 (m + 1) 2 := by
  rw [← map_range_eq_range']; simp [dataL]

theorem ancL_eq_range' (m : Nat) : ancL m = List.range' 1 m 2 := by
  rw [← map_range_eq_range']; simp [ancL, Nat.add_comm]

theorem chain_allIdx (m : Nat) (r : Bool) : (chainDesc (m + 1) r).allIdx = List.range (2 * m + 1) := by
  rw [Desc.allIdx, chain_dataIdx, chain_ancIdx, dataL_eq_range', ancL_eq_range']
  have := interleave_range' 0 m
  simp only [Nat.zero_add] at this
  rw [this, List.range_eq_range']

theorem chain_measAnc (m : Nat) (r : Bool) : (chainDesc (m + 1) r).measAnc = ancL m := by
  have h : ancL m = (List.range (2 * m + 1)).filter (· % 2 == 1) := by
    rw [filter_parity_range 1 (by omega), show (2 * m + 1 + 1 - 1) / 2 = m by omega]; rfl
  rw [Desc.measAnc, chain_allIdx, chain_ancIdx]
  conv => rhs; rw [h]
  apply List.filter_congr
  intro q hq
  have := List.mem_range.mp hq
  rw [Bool.eq_iff_iff, List.contains_iff_mem, beq_iff_eq, mem_ancL]
  omega

theorem foldl_max_range (k : Nat) : (List.range (k + 1)).foldl max 0 = k := by
  induction k with
  | zero => rfl
  | succ k ih => rw [List.range_succ, List.foldl_append, ih]; simp

theorem chain_size (m : Nat) (r : Bool) : (chainDesc (m + 1) r).size = 2 * m + 1 := by
  rw [Desc.size, chain_allIdx, foldl_max_range]

theorem flatMap_single_of_mem (P : Nat → Bool) (f : Nat → List Nat) (l : List Nat)
    (h : ∀ t ∈ l, (f t).filter P = [t]) : (l.flatMap fun t => (f t).filter P) = l := by
  induction l with
  | nil => rfl
  | cons t l ih =>
    rw [List.flatMap_cons, h t List.mem_cons_self, ih (fun x hx => h x (List.mem_cons_of_mem _ hx))]
    rfl

theorem chain_activeAnc_even (m : Nat) (r : Bool) :
    activeAnc (chainDesc (m + 1) r) ⟨evenG m, []⟩ = ancL m := by
  simp only [activeAnc, chain_measAnc, evenG, List.flatMap_map]
  apply flatMap_single_of_mem
  intro t ht
  have h := mem_ancL.mp ht
  have h1 : ¬ (t - 1) ∈ ancL m := fun hh => by have := (mem_ancL.mp hh).1; omega
  simp [ht, h1]

theorem chain_activeAnc_odd (m : Nat) (r : Bool) :
    activeAnc (chainDesc (m + 1) r) ⟨oddG m, []⟩ = ancL m := by
  simp only [activeAnc, chain_measAnc, oddG, List.flatMap_map]
  apply flatMap_single_of_mem
  intro t ht
  have h := mem_ancL.mp ht
  have h1 : ¬ (t + 1) ∈ ancL m := fun hh => by have := (mem_ancL.mp hh).1; omega
  simp [ht, h1]

theorem ancL_isEmpty (m : Nat) (hm : 0 < m) : (ancL m).isEmpty = false := by
  obtain ⟨k, rfl⟩ : ∃ k, m = k + 1 := ⟨m - 1, by omega⟩
  simp [ancL, List.range_succ_eq_map]

/-- the instructions of `get_circuit_qec_round` for the chain -/
def roundIns (m : Nat) : List Ins :=
  (ancL m).map .SY ++ [.TICK] ++ (ancL m).map (fun t => .CZ (t - 1) t) ++ [.TICK, .TICK] ++
  (ancL m).map (fun t => .CZ t (t + 1)) ++ [.TICK, .TICK] ++ (ancL m).map .SYd ++ [.TICK] ++ (ancL m).map .M

theorem chain_roundPlain (m : Nat) (hm : 0 < m) (r : Bool) :
    roundPlain (chainDesc (m + 1) r) = roundIns m := by
  have hE := ancL_isEmpty m hm
  have hf : (ancL m).filter (fun x => !(ancL m).contains x) = [] := by
    rw [List.filter_eq_nil_iff]; intro a ha; simp [ha]
  simp only [roundPlain, chain_layers m hm, roundLayers, chain_activeAnc_even, chain_activeAnc_odd,
    chain_measAnc]
  simp only [roundIns, evenG, oddG, List.map_map, Function.comp_def, List.isEmpty_map, hE, hf]
  have h1 : 1 ∈ ancL m := mem_ancL.mpr ⟨rfl, by omega⟩
  have h2 : ¬ ∀ a, ¬ a ∈ ancL m := fun h => h 1 h1
  simp [h2]
  congr 1
  exact List.filter_eq_self.mpr (fun _ _ => rfl)

end Qco.RepChain
