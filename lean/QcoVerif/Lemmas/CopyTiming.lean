import QcoVerif.Lemmas.CopyFlat
import QcoVerif.Lemmas.Evaluator
/-
  Timing corollary of the flat copy theorem: the specification evaluator answers the same start and end for the copy of a
  node as for the node, fuel by fuel — the copy's relation equations are the image of the original's.  Core Lean only.
-/
namespace Qco

open Qco.C10

/-- the hypotheses: a flat block whose depth-1 nodes have no outside relation, durations kept by the per-class copy — true
    of everything the constructors produce (`C05.copy_class_faithful`). -/
theorem copy_flat_times {w : World} {o : Nat} {w' : World} {o' : Nat} (H : FlatOk w o) (C : FlatCopy w o w' o')
    (hdur : ∀ e ∈ (w.op o).graph, (w.op e.node).copyFields.dur = (w.op e.node).dur)
    (hself : ∀ e ∈ (w.op o).graph, e.parent = none → (w.lnk (w.op e.node).link).refs.head? = none) :
    ∀ f, ∀ e ∈ (w.op o).graph,
      evStart w' f (copyMap w o e.node) = evStart w f e.node ∧ evEnd w' f (copyMap w o e.node) = evEnd w f e.node := by
  have hmem : ∀ e ∈ (w.op o).graph, e.node ∈ listing (w.op o).graph :=
    fun e he => mem_listing_iff.mpr ⟨e, he, rfl⟩
  have hD : ∀ e ∈ (w.op o).graph, ∀ f, evDur w' f (copyMap w o e.node) = evDur w f e.node := by
    intro e he
    apply evDur_leaf_eq (H.leaf _ (hmem e he)).2 ((C.node e he).copy.isComp.trans (H.leaf _ (hmem e he)).2)
    obtain ⟨l, rg, hop⟩ := C.node_op H he
    rw [hop, C.ext.env.leafDur]
    show w.leafDur (w.op e.node).copyFields.dur = _
    rw [hdur e he]
  intro f
  induction f with
  | zero => intro e he; rw [evStart.eq_1, evStart.eq_1, evEnd.eq_1, evEnd.eq_1]; exact ⟨rfl, rfl⟩
  | succ f ih =>
    intro e he
    constructor
    · rw [evStart_succ, evStart_succ, hD e he f]
      cases f with
      | zero => rw [evDur.eq_1]; rfl
      | succ f =>
        have c := C.node e he
        rw [evRef_single w' _ c.single f, evRef_single w _ (H.single _ (hmem e he)) f, c.refs, c.rel trivial]
        cases hp : e.parent with
        | none =>
          rw [hself e he hp]
          rfl
        | some p =>
          rw [H.child e he p hp]
          obtain ⟨pe, hpe, hpq, _⟩ := H.built.parent_mem he hp
          obtain ⟨i1, i2⟩ := ih pe hpe
          rw [hpq] at i1 i2
          simp only [Option.map_some, Option.toList_some, List.head?_cons, Option.bind_some, i1, i2]
    · rw [evEnd.eq_2, evEnd.eq_2, (ih e he).1, hD e he f]

end Qco
