import QcoVerif.Model.Kernel
/-
  The index-kernel model in closed form (used by Properties/C12.lean and Properties/C13.lean): every category of a
  kernel as a slot counted from the kernel's `startIndex`, the spans of the kernels of an experiment as a `chain` of
  slot lengths, and what the getters of the experiment kernel return as slices of those categories.
  Core Lean only.
-/
namespace Qco.Kernel

/-- a boolean as 0/1 (`index_delta_heralded_initialization`) -/
def hInt (b : Bool) : Int := if b then 1 else 0

theorem hInt_cases (b : Bool) : hInt b = 0 ∨ hInt b = 1 := by cases b <;> simp [hInt]
@[simp] theorem hInt_true : hInt true = 1 := rfl
@[simp] theorem hInt_false : hInt false = 0 := rfl

/-- number of index slots of a repetition kernel of `r` rounds -/
def slotLen (h : Bool) (r : Nat) : Int := hInt h + max 0 ((r : Int) - 1) + 1

theorem slotLen_pos (h : Bool) (r : Nat) : 1 ≤ slotLen h r := by
  rcases hInt_cases h with e | e <;> simp only [slotLen, e] <;> omega

/-- number of index slots of the qutrit calibration kernel -/
def calLen (h : Bool) : Int := 3 * hInt h + 3

theorem calLen_pos (h : Bool) : 1 ≤ calLen h := by
  rcases hInt_cases h with e | e <;> simp only [calLen, e] <;> omega

/-- the calibration kernel's contribution to the cycle: present iff the calibration flag is set -/
def calPart (h q : Bool) : Int := if q then calLen h else 0

/-- the same as a list of kernel lengths -/
def calLens (h q : Bool) : List Int := if q then [calLen h] else []

theorem calLens_sum (h q : Bool) : (calLens h q).sum = calPart h q := by
  cases q <;> simp [calLens, calPart]

theorem calPart_nonneg (h q : Bool) : 0 ≤ calPart h q := by
  have := calLen_pos h
  cases q <;> simp only [calPart, if_true, Bool.false_eq_true, if_false] <;> omega

def StateKey.num : StateKey → Int
  | .s0 => 0 | .s1 => 1 | .s2 => 2

theorem StateKey.num_inj {s s' : StateKey} (h : s.num = s'.num) : s = s' := by
  cases s <;> cases s' <;> first | rfl | exact absurd h (by decide)

/-- consecutive inclusive spans of the given lengths, starting at `s` -/
def chain : Int → List Int → List (Int × Int)
  | _, [] => []
  | s, l :: ls => (s, s + l - 1) :: chain (s + l) ls

theorem chain_append (s : Int) (l₁ l₂ : List Int) :
    chain s (l₁ ++ l₂) = chain s l₁ ++ chain (s + l₁.sum) l₂ := by
  induction l₁ generalizing s with
  | nil => simp [chain]
  | cons a as ih =>
    simp only [List.cons_append, chain, ih, List.sum_cons]
    rw [Int.add_assoc]

theorem chain_length (s : Int) (ls : List Int) : (chain s ls).length = ls.length := by
  induction ls generalizing s with
  | nil => rfl
  | cons a as ih => simp [chain, ih]

theorem sum_nonneg_of_pos {ls : List Int} (h : ∀ l ∈ ls, 1 ≤ l) : 0 ≤ ls.sum := by
  induction ls with
  | nil => simp
  | cons b bs ih =>
    have := h b (by simp)
    have := ih (fun l hl => h l (by simp [hl]))
    simp only [List.sum_cons]; omega

theorem chain_mem_bounds {s : Int} {ls : List Int} (hpos : ∀ l ∈ ls, 1 ≤ l) :
    ∀ p ∈ chain s ls, s ≤ p.1 ∧ p.1 ≤ p.2 ∧ p.2 < s + ls.sum := by
  induction ls generalizing s with
  | nil => intro p hp; simp [chain] at hp
  | cons a as ih =>
    rw [List.forall_mem_cons] at hpos
    have hsum := sum_nonneg_of_pos hpos.2
    simp only [chain, List.forall_mem_cons, List.sum_cons]
    exact ⟨by omega, fun p hp => by have := ih hpos.2 p hp; omega⟩

theorem chain_consecutive (s : Int) (ls : List Int) (i : Nat) (p p' : Int × Int)
    (h1 : (chain s ls)[i]? = some p) (h2 : (chain s ls)[i + 1]? = some p') : p'.1 = p.2 + 1 := by
  induction ls generalizing s i with
  | nil => simp [chain] at h1
  | cons a as ih =>
    cases i with
    | zero =>
      cases as with
      | nil => simp [chain] at h2
      | cons b bs =>
        simp only [chain, List.getElem?_cons_zero, List.getElem?_cons_succ, Option.some.injEq] at h1 h2
        subst h1 h2; simp only; omega
    | succ j =>
      simp only [chain, List.getElem?_cons_succ] at h1 h2
      exact ih (s + a) j h1 h2

theorem chain_pairwise {s : Int} {ls : List Int} (hpos : ∀ l ∈ ls, 1 ≤ l) :
    List.Pairwise (fun p p' : Int × Int => p.2 < p'.1) (chain s ls) := by
  induction ls generalizing s with
  | nil => simp [chain]
  | cons a as ih =>
    rw [List.forall_mem_cons] at hpos
    simp only [chain, List.pairwise_cons]
    exact ⟨fun p hp => by have := chain_mem_bounds hpos.2 p hp; omega, ih hpos.2⟩

theorem chain_cover {s : Int} {ls : List Int} (hpos : ∀ l ∈ ls, 1 ≤ l) (x : Int) :
    (s ≤ x ∧ x < s + ls.sum) ↔ ∃ p ∈ chain s ls, p.1 ≤ x ∧ x ≤ p.2 := by
  induction ls generalizing s with
  | nil => simp [chain]
  | cons a as ih =>
    rw [List.forall_mem_cons] at hpos
    have hsum := sum_nonneg_of_pos hpos.2
    simp only [chain, List.sum_cons, List.mem_cons, exists_eq_or_imp, ← ih hpos.2]
    omega

theorem chain_getLast (s : Int) (ls : List Int) (hne : ls ≠ []) :
    (chain s ls).getLast?.map Prod.snd = some (s + ls.sum - 1) := by
  induction ls generalizing s with
  | nil => exact absurd rfl hne
  | cons a as ih =>
    cases as with
    | nil => simp [chain]
    | cons b bs =>
      have := ih (s + a) (by simp)
      simp only [chain, List.getLast?_cons_cons] at this ⊢
      rw [this]; simp only [List.sum_cons, Option.some.injEq]; omega

theorem chain_head (s l : Int) (ls : List Int) : (chain s (l :: ls)).head? = some (s, s + l - 1) := rfl

namespace RepKernel

theorem dHer_eq (k : RepKernel) : k.dHer = hInt k.heralded := rfl

theorem stop_eq (k : RepKernel) : k.stopIndex = k.startIndex + slotLen k.heralded k.nr - 1 := by
  simp only [stopIndex, exclStart, dHer_eq, dStab, dFinal, slotLen]; omega

theorem start_le_stop (k : RepKernel) : k.startIndex ≤ k.stopIndex := by
  have := slotLen_pos k.heralded k.nr
  rw [stop_eq]; omega

theorem kernelLength_eq (k : RepKernel) : k.kernelLength = slotLen k.heralded k.nr := by
  simp only [kernelLength, stop_eq]; omega

theorem anc_involved {k : RepKernel} {e : QId} (he : e ∈ k.ancIds) : e ∈ k.involved := by
  simp [involved, he]

theorem data_involved {k : RepKernel} {e : QId} (he : e ∈ k.dataIds) : e ∈ k.involved := by
  simp [involved, he]

/-- the heralded measurement is the kernel's first slot -/
theorem heraldedIdx_eq (k : RepKernel) (e : QId) :
    k.heraldedIdx e = if e ∈ k.involved ∧ k.heralded = true then [k.startIndex] else [] := by
  unfold heraldedIdx
  by_cases he : e ∈ k.involved <;> cases hh : k.heralded <;> simp [he, dHer, hh, exclStart]

/-- the stabilizer measurements are the `nr - 1` slots after the heralded one (the code's test `nr = 1` only
spares an empty range) -/
theorem stabIdx_eq (k : RepKernel) (e : QId) :
    k.stabIdx e = if e ∈ k.ancIds then
      (List.range' 0 (k.nr - 1)).map (fun (i : Nat) => k.startIndex + hInt k.heralded + (i : Int)) else [] := by
  unfold stabIdx
  by_cases he : e ∈ k.ancIds
  · by_cases h1 : k.nr = 1
    · simp [he, h1]
    · simp only [he, not_true_eq_false, if_false, h1, if_true]
      rw [show List.range' 1 (k.nr - 1) = _ from (List.map_add_range' (a := 1) 0 _ 1).symm, List.map_map]
      apply List.map_congr_left
      intro i _
      simp only [Function.comp, exclStart, dHer_eq]; omega
  · simp [he]

/-- the final measurement is the kernel's last slot -/
theorem finalIdx_eq (k : RepKernel) (e : QId) :
    k.finalIdx e = if e ∈ k.involved ∧ ¬ (e ∈ k.ancIds ∧ k.nr = 0) then [k.stopIndex] else [] := by
  have hst : k.exclStart + k.dHer + k.dStab + k.dFinal = k.stopIndex := by
    simp only [stopIndex]; omega
  unfold finalIdx
  rw [hst]
  by_cases he : e ∈ k.involved <;> by_cases hz : e ∈ k.ancIds ∧ k.nr = 0 <;> simp [he, hz]

theorem mem_heraldedIdx {k : RepKernel} {e : QId} {x : Int} :
    x ∈ k.heraldedIdx e ↔ e ∈ k.involved ∧ k.heralded = true ∧ x = k.startIndex := by
  rw [heraldedIdx_eq, List.mem_ite_nil_right, List.mem_singleton, and_assoc]

theorem mem_stabIdx {k : RepKernel} {e : QId} {x : Int} :
    x ∈ k.stabIdx e ↔ e ∈ k.ancIds ∧ k.startIndex + hInt k.heralded ≤ x ∧
      x ≤ k.startIndex + hInt k.heralded + (k.nr : Int) - 2 := by
  rw [stabIdx_eq, List.mem_ite_nil_right, List.mem_map]
  refine and_congr_right fun _ => ⟨?_, fun hx => ⟨(x - (k.startIndex + hInt k.heralded)).toNat, ?_, ?_⟩⟩
  · rintro ⟨i, hi, rfl⟩
    rw [List.mem_range'_1] at hi; omega
  · rw [List.mem_range'_1]; omega
  · omega

theorem mem_finalIdx {k : RepKernel} {e : QId} {x : Int} :
    x ∈ k.finalIdx e ↔ e ∈ k.involved ∧ ¬ (e ∈ k.ancIds ∧ k.nr = 0) ∧ x = k.stopIndex := by
  rw [finalIdx_eq, List.mem_ite_nil_right, List.mem_singleton, and_assoc]

/-- an ancilla's stabilizer and final indices together are the `nr` slots after the heralded one -/
theorem stab_final_anc {k : RepKernel} {e : QId} (he : e ∈ k.ancIds) :
    k.stabIdx e ++ k.finalIdx e =
      (List.range' 0 k.nr).map (fun (i : Nat) => k.startIndex + hInt k.heralded + (i : Int)) := by
  have hs := k.stop_eq
  rw [stabIdx_eq, finalIdx_eq, if_pos he]
  cases hn : k.nr with
  | zero => simp [he]
  | succ n =>
    simp only [slotLen, hn] at hs
    rw [if_pos ⟨anc_involved he, by simp⟩, List.range'_1_concat, List.map_append, hs]
    simp only [Nat.add_sub_cancel, List.map_cons, List.map_nil, List.append_cancel_left_eq, List.cons.injEq,
      and_true]
    omega

def all (k : RepKernel) (e : QId) : List Int := k.heraldedIdx e ++ k.stabIdx e ++ k.finalIdx e

theorem mem_all_in_span {k : RepKernel} {e : QId} {x : Int} (hx : x ∈ k.all e) :
    k.startIndex ≤ x ∧ x ≤ k.stopIndex := by
  have hs := k.stop_eq
  simp only [all, List.mem_append, mem_heraldedIdx, mem_stabIdx, mem_finalIdx] at hx
  rcases hInt_cases k.heralded with e0 | e0 <;>
    simp only [slotLen, e0] at hs <;> simp only [e0] at hx <;> omega

/-- an ancilla's categories cover the kernel, except the last slot of a 0-round kernel -/
theorem mem_all_anc {k : RepKernel} {e : QId} (he : e ∈ k.ancIds) (x : Int) :
    x ∈ k.all e ↔ k.startIndex ≤ x ∧ x ≤ k.stopIndex ∧ ¬ (k.nr = 0 ∧ x = k.stopIndex) := by
  have hs := k.stop_eq
  simp only [all, List.mem_append, mem_heraldedIdx, mem_stabIdx, mem_finalIdx, anc_involved he, he,
    true_and]
  cases hh : k.heralded <;>
    simp only [slotLen, hh, hInt_true, hInt_false, Bool.false_eq_true, false_and, true_and, false_or] at hs ⊢ <;>
    omega

theorem mem_all_data {k : RepKernel} {e : QId} (hd : e ∈ k.dataIds) (ha : e ∉ k.ancIds) (x : Int) :
    x ∈ k.all e ↔ (k.heralded = true ∧ x = k.startIndex) ∨ x = k.stopIndex := by
  simp [all, List.mem_append, mem_heraldedIdx, mem_stabIdx, mem_finalIdx, data_involved hd, ha]

theorem all_of_not_involved {k : RepKernel} {e : QId} (hn : e ∉ k.involved) : k.all e = [] := by
  have ha : e ∉ k.ancIds := fun h => hn (anc_involved h)
  simp [all, heraldedIdx_eq, stabIdx_eq, finalIdx_eq, hn, ha]

/-- heralded < stabilizer < final, each strictly ascending: in particular the categories are pairwise disjoint and
free of duplicates -/
theorem all_sorted (k : RepKernel) (e : QId) : List.Pairwise (· < ·) (k.all e) := by
  have hs := k.stop_eq
  have hl := slotLen_pos k.heralded k.nr
  unfold all
  rw [List.pairwise_append, List.pairwise_append]
  refine ⟨⟨?_, ?_, ?_⟩, ?_, ?_⟩
  · rw [heraldedIdx_eq]; split <;> simp
  · rw [stabIdx_eq]
    split
    · rw [List.pairwise_map]
      exact List.Pairwise.imp (fun {a b} (h : a < b) => by omega) List.pairwise_lt_range'
    · exact List.Pairwise.nil
  · intro a ha b hb
    rw [mem_heraldedIdx] at ha; rw [mem_stabIdx] at hb
    obtain ⟨_, hh, rfl⟩ := ha
    simp only [hh, hInt_true] at hb; omega
  · rw [finalIdx_eq]; split <;> simp
  · intro a ha b hb
    rw [mem_finalIdx] at hb
    obtain ⟨_, hz, rfl⟩ := hb
    rw [List.mem_append, mem_heraldedIdx, mem_stabIdx] at ha
    cases hh : k.heralded <;>
      simp only [slotLen, hh, hInt_true, hInt_false] at hs hl <;>
      simp only [hh, hInt_true, hInt_false, Bool.false_eq_true, false_and, and_false, false_or, eq_self,
        true_and] at ha
    · omega
    · rcases ha with ⟨_, rfl⟩ | ha <;> omega

end RepKernel

namespace CalKernel

theorem dHer_eq (c : CalKernel) : c.dHer = hInt c.heralded := rfl

theorem stop_eq (c : CalKernel) : c.stopIndex = c.startIndex + calLen c.heralded - 1 := by
  simp only [stopIndex, exclStart, dHer_eq, d0, d1, d2, calLen]; omega

theorem start_le_stop (c : CalKernel) : c.startIndex ≤ c.stopIndex := by
  have := calLen_pos c.heralded
  rw [stop_eq]; omega

theorem kernelLength_eq (c : CalKernel) : c.kernelLength = calLen c.heralded := by
  simp only [kernelLength, stop_eq]; omega

/-- with heralding, the heralded measurement of state `s` is slot `2s` of the kernel -/
theorem heraldedState_eq (c : CalKernel) (s : StateKey) (e : QId) :
    c.heraldedState s e = if e ∈ c.ids ∧ c.heralded = true then [c.startIndex + 2 * s.num] else [] := by
  have key : ∀ y : Int, (c.heralded = true → y = c.startIndex + 2 * s.num) →
      c.heraldedGuard e y = if e ∈ c.ids ∧ c.heralded = true then [c.startIndex + 2 * s.num] else [] := by
    intro y hy
    unfold heraldedGuard
    by_cases he : e ∈ c.ids <;> cases hh : c.heralded <;> simp [he]
    exact hy hh
  cases s <;> refine key _ fun hh => ?_ <;>
    simp only [exclStart, dHer_eq, hh, hInt_true, d0, d1, StateKey.num] <;> omega

/-- the projected measurement of state `s` is slot `s` without heralding, slot `2s + 1` with -/
theorem projectedState_eq (c : CalKernel) (s : StateKey) (e : QId) :
    c.projectedState s e =
      if e ∈ c.ids then [c.startIndex + (1 + hInt c.heralded) * s.num + hInt c.heralded] else [] := by
  have key : ∀ y z : Int, y = z → c.stateGuard e y = if e ∈ c.ids then [z] else [] := by
    intro y z hyz
    rw [hyz, stateGuard]
    split <;> simp_all
  cases s <;> refine key _ _ ?_ <;> simp only [exclStart, dHer_eq, d0, d1, d2, StateKey.num] <;> omega

theorem mem_heraldedState {c : CalKernel} {s : StateKey} {e : QId} {x : Int} :
    x ∈ c.heraldedState s e ↔ e ∈ c.ids ∧ c.heralded = true ∧ x = c.startIndex + 2 * s.num := by
  rw [heraldedState_eq, List.mem_ite_nil_right, List.mem_singleton, and_assoc]

theorem mem_projectedState {c : CalKernel} {s : StateKey} {e : QId} {x : Int} :
    x ∈ c.projectedState s e ↔ e ∈ c.ids ∧
      x = c.startIndex + (1 + hInt c.heralded) * s.num + hInt c.heralded := by
  rw [projectedState_eq, List.mem_ite_nil_right, List.mem_singleton]

/-- the six categories in index order -/
def all (c : CalKernel) (e : QId) : List Int :=
  c.heralded0 e ++ c.state0 e ++ c.heralded1 e ++ c.state1 e ++ c.heralded2 e ++ c.state2 e

theorem all_eq (c : CalKernel) (e : QId) :
    c.all e = c.heraldedState .s0 e ++ c.projectedState .s0 e ++ c.heraldedState .s1 e ++ c.projectedState .s1 e
      ++ c.heraldedState .s2 e ++ c.projectedState .s2 e := rfl

theorem mem_all_of_mem_heraldedState {c : CalKernel} {s : StateKey} {e : QId} {x : Int}
    (hx : x ∈ c.heraldedState s e) : x ∈ c.all e := by
  cases s <;> simp [all_eq, hx]

theorem mem_all_of_mem_projectedState {c : CalKernel} {s : StateKey} {e : QId} {x : Int}
    (hx : x ∈ c.projectedState s e) : x ∈ c.all e := by
  cases s <;> simp [all_eq, hx]

theorem mem_all_of_mem {c : CalKernel} {e : QId} (he : e ∈ c.ids) (x : Int) :
    x ∈ c.all e ↔ c.startIndex ≤ x ∧ x ≤ c.stopIndex := by
  have hs := c.stop_eq
  simp only [all_eq, List.mem_append, mem_heraldedState, mem_projectedState, StateKey.num, he, true_and]
  cases hh : c.heralded <;>
    simp only [calLen, hh, hInt_true, hInt_false, Bool.false_eq_true, false_and, true_and, false_or,
      or_false] at hs ⊢ <;>
    omega

theorem all_of_not_mem {c : CalKernel} {e : QId} (hn : e ∉ c.ids) : c.all e = [] := by
  simp [all_eq, heraldedState_eq, projectedState_eq, hn]

theorem mem_all_in_span {c : CalKernel} {e : QId} {x : Int} (hx : x ∈ c.all e) :
    c.startIndex ≤ x ∧ x ≤ c.stopIndex := by
  by_cases he : e ∈ c.ids
  · exact (mem_all_of_mem he x).mp hx
  · rw [all_of_not_mem he] at hx; simp at hx

theorem all_sorted (c : CalKernel) (e : QId) : List.Pairwise (· < ·) (c.all e) := by
  by_cases he : e ∈ c.ids
  · cases hh : c.heralded <;>
      simp [all_eq, heraldedState_eq, projectedState_eq, StateKey.num, he, hh] <;> omega
  · simp [all_of_not_mem he]

end CalKernel

theorem buildReps_spans (h : Bool) (d a : List QId) (strat : Strategy) (rounds : List Nat) :
    (buildReps h d a strat rounds).map (fun k => (k.startIndex, k.stopIndex))
      = chain strat.getIndex (rounds.map (slotLen h)) := by
  induction rounds generalizing strat with
  | nil => rfl
  | cons r rs ih =>
    simp only [buildReps, List.map_cons, chain, ih]
    have hs := RepKernel.stop_eq
      { nr := r, heralded := h, strategy := strat, dataIds := d, ancIds := a }
    simp only [RepKernel.startIndex] at hs ⊢
    rw [hs]
    simp only [Strategy.getIndex]
    congr 2
    omega

theorem buildReps_fields {h : Bool} {d a : List QId} {strat : Strategy} {rounds : List Nat} :
    ∀ k ∈ buildReps h d a strat rounds, k.heralded = h ∧ k.dataIds = d ∧ k.ancIds = a := by
  induction rounds generalizing strat with
  | nil => intro k hk; simp [buildReps] at hk
  | cons r rs ih =>
    intro k hk
    simp only [buildReps, List.mem_cons] at hk
    rcases hk with rfl | hk
    · simp
    · exact ih k hk

theorem buildReps_nr (h : Bool) (d a : List QId) (strat : Strategy) (rounds : List Nat) :
    (buildReps h d a strat rounds).map (·.nr) = rounds := by
  induction rounds generalizing strat with
  | nil => rfl
  | cons r rs ih => simp [buildReps, ih]

theorem buildReps_length (h : Bool) (d a : List QId) (strat : Strategy) (rounds : List Nat) :
    (buildReps h d a strat rounds).length = rounds.length := by
  have := congrArg List.length (buildReps_nr h d a strat rounds)
  simpa using this

/-- the two kernels the code reads by position: `[0]` starts where the strategy says, `[-1]` stops where the slots of
all rounds end -/
theorem buildReps_ends (h : Bool) (d a : List QId) (strat : Strategy) {rounds : List Nat} (hne : rounds ≠ []) :
    ∃ first last, (buildReps h d a strat rounds).head? = some first ∧
      (buildReps h d a strat rounds).getLast? = some last ∧ first.startIndex = strat.getIndex ∧
      last.stopIndex = strat.getIndex + (rounds.map (slotLen h)).sum - 1 := by
  have hl := chain_getLast strat.getIndex (rounds.map (slotLen h)) (by simpa using hne)
  rw [← buildReps_spans h d a, List.getLast?_map] at hl
  cases rounds with
  | nil => exact absurd rfl hne
  | cons r rs =>
    cases hlast : (buildReps h d a strat (r :: rs)).getLast? with
    | none => rw [hlast] at hl; simp at hl
    | some last =>
      rw [hlast] at hl
      exact ⟨_, last, rfl, rfl, rfl, by simpa using hl⟩

/-- what a successfully constructed experiment kernel consists of -/
structure Built (rounds : List Nat) (h q : Bool) (d a : List QId) (reps : Nat) (K : ExpKernel) : Prop where
  ne : rounds ≠ []
  reps_eq : K.reps = reps
  rounds_eq : K.rounds = rounds
  qutrit_eq : K.qutrit = q
  kernels : K.repKernels = buildReps h d a (.fixed 0) rounds
  cal : K.calKernel =
    { heralded := h, strategy := .relative ((rounds.map (slotLen h)).sum - 1), ids := d ++ a }

theorem new?_spec {rounds : List Nat} {h q : Bool} {d a : List QId} {reps : Nat} {K : ExpKernel}
    (hK : ExpKernel.new? rounds h q d a reps = some K) : Built rounds h q d a reps K := by
  have hne : rounds ≠ [] := by
    rintro rfl; exact absurd hK (by simp [ExpKernel.new?, buildReps])
  obtain ⟨_, last, _, hlast, _, hstop⟩ := buildReps_ends h d a (.fixed 0) hne
  simp only [ExpKernel.new?, hlast, Option.some.injEq] at hK
  subst hK
  exact ⟨hne, rfl, rfl, rfl, rfl, by simp [hstop, Strategy.getIndex]⟩

theorem new?_isSome_iff (rounds : List Nat) (h q : Bool) (d a : List QId) (reps : Nat) :
    (ExpKernel.new? rounds h q d a reps).isSome ↔ rounds ≠ [] := by
  constructor
  · intro hs
    obtain ⟨K, hK⟩ := Option.isSome_iff_exists.mp hs
    exact (new?_spec hK).ne
  · intro hne
    obtain ⟨_, last, _, hlast, _⟩ := buildReps_ends h d a (.fixed 0) hne
    simp [ExpKernel.new?, hlast]

namespace Built

variable {rounds : List Nat} {h q : Bool} {d a : List QId} {reps : Nat} {K : ExpKernel}

theorem mem_fields (B : Built rounds h q d a reps K) {k : RepKernel} (hk : k ∈ K.repKernels) :
    k.heralded = h ∧ k.dataIds = d ∧ k.ancIds = a := by
  rw [B.kernels] at hk
  exact buildReps_fields k hk

theorem nr_eq (B : Built rounds h q d a reps K) : K.repKernels.map (·.nr) = rounds := by
  rw [B.kernels, buildReps_nr]

theorem rep_spans (B : Built rounds h q d a reps K) :
    K.repKernels.map (fun k => (k.startIndex, k.stopIndex)) = chain 0 (rounds.map (slotLen h)) := by
  rw [B.kernels, buildReps_spans]; rfl

theorem cal_start (B : Built rounds h q d a reps K) :
    K.calKernel.startIndex = (rounds.map (slotLen h)).sum := by
  rw [B.cal]; simp only [CalKernel.startIndex, Strategy.getIndex]; omega

theorem cal_heralded (B : Built rounds h q d a reps K) : K.calKernel.heralded = h := by rw [B.cal]

theorem cal_ids (B : Built rounds h q d a reps K) : K.calKernel.ids = d ++ a := by rw [B.cal]

theorem cal_stop (B : Built rounds h q d a reps K) :
    K.calKernel.stopIndex = (rounds.map (slotLen h)).sum + calLen h - 1 := by
  rw [CalKernel.stop_eq, B.cal_start, B.cal_heralded]

theorem spans_eq (B : Built rounds h q d a reps K) :
    K.spans = chain 0 (rounds.map (slotLen h) ++ calLens h q) := by
  have h0 : K.spans = K.repKernels.map (fun k => (k.startIndex, k.stopIndex))
      ++ (if q then [(K.calKernel.startIndex, K.calKernel.stopIndex)] else []) := by
    cases hq : q <;>
      simp [ExpKernel.spans, ExpKernel.indexingKernels, IKernel.startIndex, IKernel.stopIndex,
        Function.comp_def, B.qutrit_eq, hq]
  rw [h0, B.rep_spans, B.cal_start, B.cal_stop, chain_append]
  cases q <;> simp [chain, calLens]

theorem rep_lens_pos (h : Bool) (rounds : List Nat) : ∀ l ∈ rounds.map (slotLen h), 1 ≤ l := by
  intro l hl
  obtain ⟨r, _, rfl⟩ := List.mem_map.mp hl
  exact slotLen_pos h r

theorem lens_pos (h q : Bool) (rounds : List Nat) : ∀ l ∈ rounds.map (slotLen h) ++ calLens h q, 1 ≤ l := by
  intro l hl
  rcases List.mem_append.mp hl with hl | hl
  · exact rep_lens_pos h rounds l hl
  · cases q <;> simp [calLens] at hl
    subst hl; exact calLen_pos h

theorem lens_ne (B : Built rounds h q d a reps K) : rounds.map (slotLen h) ++ calLens h q ≠ [] := by
  have := B.ne
  simp [this]

theorem start_eq (B : Built rounds h q d a reps K) : K.startIndex = 0 := by
  have hk := B.kernels
  cases hr : rounds with
  | nil => exact absurd hr B.ne
  | cons r rs =>
    rw [hr] at hk
    simp only [ExpKernel.startIndex, ExpKernel.indexingKernels, hk, buildReps, List.map_cons,
      List.cons_append, IKernel.startIndex, RepKernel.startIndex, Strategy.getIndex]

theorem lastStop_eq (B : Built rounds h q d a reps K) :
    K.lastStopIndex = (rounds.map (slotLen h) ++ calLens h q).sum - 1 := by
  have hs : K.indexingKernels.getLast?.map IKernel.stopIndex = K.spans.getLast?.map Prod.snd := by
    rw [ExpKernel.spans, List.getLast?_map, Option.map_map]; rfl
  rw [B.spans_eq, chain_getLast _ _ B.lens_ne, Int.zero_add] at hs
  unfold ExpKernel.lastStopIndex
  cases hl : K.indexingKernels.getLast? with
  | none => rw [hl] at hs; simp at hs
  | some k => rw [hl] at hs; exact Option.some.inj hs

theorem cycle_eq_sum (B : Built rounds h q d a reps K) :
    K.cycleLength = (rounds.map (slotLen h) ++ calLens h q).sum := by
  simp only [ExpKernel.cycleLength, B.start_eq, B.lastStop_eq]; omega

theorem cycle_eq (B : Built rounds h q d a reps K) :
    K.cycleLength = (rounds.map (slotLen h)).sum + calPart h q := by
  rw [B.cycle_eq_sum, List.sum_append, calLens_sum]

theorem rep_sum_pos (B : Built rounds h q d a reps K) : 1 ≤ (rounds.map (slotLen h)).sum := by
  have hne := B.ne
  cases rounds with
  | nil => exact absurd rfl hne
  | cons r rs =>
    have := slotLen_pos h r
    have := sum_nonneg_of_pos (rep_lens_pos h rs)
    simp only [List.map_cons, List.sum_cons]; omega

theorem cycle_pos (B : Built rounds h q d a reps K) : 1 ≤ K.cycleLength := by
  have := B.rep_sum_pos
  have := calPart_nonneg h q
  rw [B.cycle_eq]; omega

/-- the repetition kernels are pairwise ordered, hence disjoint -/
theorem rep_pairwise (B : Built rounds h q d a reps K) :
    List.Pairwise (fun k k' : RepKernel => k.stopIndex < k'.startIndex) K.repKernels := by
  have := chain_pairwise (s := 0) (rep_lens_pos h rounds)
  rw [← B.rep_spans, List.pairwise_map] at this
  exact this

theorem rep_in_cycle (B : Built rounds h q d a reps K) {k : RepKernel} (hk : k ∈ K.repKernels) :
    0 ≤ k.startIndex ∧ k.stopIndex < K.calKernel.startIndex := by
  have hm : (k.startIndex, k.stopIndex) ∈ chain 0 (rounds.map (slotLen h)) := by
    rw [← B.rep_spans]; exact List.mem_map.mpr ⟨k, hk, rfl⟩
  have := chain_mem_bounds (rep_lens_pos h rounds) _ hm
  rw [B.cal_start]
  simp only at this; omega

/-- the repetition kernels tile `[0, calibration start)` -/
theorem rep_cover (B : Built rounds h q d a reps K) (x : Int) :
    (0 ≤ x ∧ x < K.calKernel.startIndex) ↔ ∃ k ∈ K.repKernels, k.startIndex ≤ x ∧ x ≤ k.stopIndex := by
  have hc := chain_cover (s := 0) (rep_lens_pos h rounds) x
  rw [B.cal_start]
  simp only [Int.zero_add] at hc
  rw [hc, ← B.rep_spans]
  constructor
  · rintro ⟨p, hp, h1, h2⟩
    obtain ⟨k, hk, rfl⟩ := List.mem_map.mp hp
    exact ⟨k, hk, h1, h2⟩
  · rintro ⟨k, hk, h1, h2⟩
    exact ⟨_, List.mem_map.mpr ⟨k, hk, rfl⟩, h1, h2⟩

theorem cal_start_nonneg (B : Built rounds h q d a reps K) : 0 ≤ K.calKernel.startIndex := by
  rw [B.cal_start]
  exact sum_nonneg_of_pos (rep_lens_pos h rounds)

/-- with the flag set the calibration kernel is the last kernel of the cycle -/
theorem cal_stop_cycle (B : Built rounds h q d a reps K) (hq : q = true) :
    K.calKernel.stopIndex = K.cycleLength - 1 := by
  rw [B.cycle_eq, B.cal_stop, calPart, hq]; simp

/-- the repetition kernels end where the calibration kernel would start; without the flag that is the cycle's end -/
theorem cal_start_le_cycle (B : Built rounds h q d a reps K) : K.calKernel.startIndex ≤ K.cycleLength := by
  have := calPart_nonneg h q
  rw [B.cycle_eq, B.cal_start]; omega

theorem cal_start_eq_cycle (B : Built rounds h q d a reps K) (hq : q = false) :
    K.calKernel.startIndex = K.cycleLength := by
  rw [B.cycle_eq, B.cal_start, calPart, hq]; simp

end Built

theorem pairwise_trichotomy {α : Type} {R : α → α → Prop} {l : List α} (hp : List.Pairwise R l)
    {x y : α} (hx : x ∈ l) (hy : y ∈ l) : x = y ∨ R x y ∨ R y x := by
  induction l with
  | nil => simp at hx
  | cons z zs ih =>
    rw [List.pairwise_cons] at hp
    rcases List.mem_cons.mp hx with rfl | hx' <;> rcases List.mem_cons.mp hy with rfl | hy'
    · exact Or.inl rfl
    · exact Or.inr (Or.inl (hp.1 _ hy'))
    · exact Or.inr (Or.inr (hp.1 _ hx'))
    · exact ih hp.2 hx' hy'

/-- Python's `for k in l: if f(k) == r: return k` finds the i-th element when the keys are distinct -/
theorem find?_of_nodup_map {α : Type} (f : α → Nat) (l : List α) (i r : Nat)
    (hn : (l.map f).Nodup) (hi : (l.map f)[i]? = some r) :
    l.find? (fun x => f x == r) = l[i]? := by
  induction l generalizing i with
  | nil => simp
  | cons x xs ih =>
    rw [List.map_cons, List.nodup_cons] at hn
    cases i with
    | zero =>
      simp only [List.map_cons, List.getElem?_cons_zero, Option.some.injEq] at hi
      simp [hi]
    | succ j =>
      simp only [List.map_cons, List.getElem?_cons_succ] at hi
      have hmem : r ∈ xs.map f := List.mem_of_getElem? hi
      have hne : f x ≠ r := fun h => hn.1 (h ▸ hmem)
      simp only [List.find?_cons, List.getElem?_cons_succ]
      have : (f x == r) = false := by simpa using hne
      rw [this]
      exact ih j hn.2 hi

theorem cycleIndices_eq (K : ExpKernel) (e : QId) :
    K.cycleIndices e = (K.repKernels.map (fun k => k.all e)).flatten
      ++ (if K.qutrit then K.calKernel.all e else []) := rfl

theorem mem_cycleIndices {K : ExpKernel} {e : QId} {x : Int} :
    x ∈ K.cycleIndices e ↔
      (∃ k ∈ K.repKernels, x ∈ k.all e) ∨ (K.qutrit = true ∧ x ∈ K.calKernel.all e) := by
  rw [cycleIndices_eq, List.mem_append, List.mem_flatten, List.mem_ite_nil_right]
  refine or_congr ⟨?_, ?_⟩ Iff.rfl
  · rintro ⟨l, hl, hx⟩
    obtain ⟨k, hk, rfl⟩ := List.mem_map.mp hl
    exact ⟨k, hk, hx⟩
  · rintro ⟨k, hk, hx⟩
    exact ⟨_, List.mem_map.mpr ⟨k, hk, rfl⟩, hx⟩

theorem Built.cycleIndices_sorted {rounds : List Nat} {h q : Bool} {d a : List QId} {reps : Nat} {K : ExpKernel}
    (B : Built rounds h q d a reps K) (e : QId) : List.Pairwise (· < ·) (K.cycleIndices e) := by
  rw [cycleIndices_eq, List.pairwise_append]
  have hcal : List.Pairwise (· < ·) (if K.qutrit then K.calKernel.all e else []) := by
    split
    · exact K.calKernel.all_sorted e
    · exact List.Pairwise.nil
  refine ⟨?_, hcal, ?_⟩
  · rw [List.pairwise_flatten]
    refine ⟨?_, ?_⟩
    · intro l hl
      obtain ⟨k, _, rfl⟩ := List.mem_map.mp hl
      exact k.all_sorted e
    · rw [List.pairwise_map]
      refine List.Pairwise.imp ?_ B.rep_pairwise
      intro k k' hkk x hx y hy
      have := RepKernel.mem_all_in_span hx
      have := RepKernel.mem_all_in_span hy
      omega
  · intro x hx y hy
    obtain ⟨l, hl, hxl⟩ := List.mem_flatten.mp hx
    obtain ⟨k, hk, rfl⟩ := List.mem_map.mp hl
    have := RepKernel.mem_all_in_span hxl
    have := B.rep_in_cycle hk
    split at hy
    · have := CalKernel.mem_all_in_span hy
      omega
    · simp at hy

theorem slicedArrays_length (l : List Int) (c : Int) (n : Nat) : (slicedArrays l c n).length = n := by
  simp [slicedArrays]

theorem slicedArrays_getElem? (l : List Int) (c : Int) (n j : Nat) (hj : j < n) :
    (slicedArrays l c n)[j]? = some (l.map (fun x => x + (j : Int) * c)) := by
  simp [slicedArrays, List.getElem?_map, List.getElem?_range hj]

theorem slicedArrays_row {l : List Int} {c : Int} {n j : Nat} {row : List Int}
    (h : (slicedArrays l c n)[j]? = some row) : j < n ∧ row = l.map (fun x => x + (j : Int) * c) := by
  have hj : j < n := by
    have := (List.getElem?_eq_some_iff.mp h).1
    rwa [slicedArrays_length] at this
  rw [slicedArrays_getElem? _ _ _ _ hj] at h
  exact ⟨hj, (Option.some.inj h).symm⟩

theorem mem_slicedArray {l : List Int} {c : Int} {n : Nat} {y : Int} :
    y ∈ slicedArray l c n ↔ ∃ j, j < n ∧ ∃ x ∈ l, y = x + (j : Int) * c := by
  simp only [slicedArray, slicedArrays, List.mem_flatten, List.mem_map, List.mem_range]
  constructor
  · rintro ⟨row, ⟨j, hj, rfl⟩, hy⟩
    obtain ⟨x, hx, rfl⟩ := List.mem_map.mp hy
    exact ⟨j, hj, x, hx, rfl⟩
  · rintro ⟨j, hj, x, hx, rfl⟩
    exact ⟨_, ⟨j, hj, rfl⟩, List.mem_map.mpr ⟨x, hx, rfl⟩⟩

/-- an index of the first cycle, moved on by `j` cycles, lies in the `j`-th window -/
theorem shift_window {y c : Int} (j : Nat) (h0 : 0 ≤ y) (h1 : y < c) :
    (j : Int) * c ≤ y + (j : Int) * c ∧ y + (j : Int) * c < ((j : Int) + 1) * c := by
  rw [Int.add_mul, Int.one_mul]; omega

namespace ExpKernel

/-- each of the three cycle getters answers with the slices of some of the categories of the kernel it finds -/
theorem cycleGetter_eq {K : ExpKernel} {e : QId} {count : Nat} {rows : List (List Int)}
    (h : K.heraldedCycle e count = some rows ∨ K.stabilizerAndProjectedCycle e count = some rows ∨
      K.projectedCycle e count = some rows) :
    ∃ k l, K.findKernel count = some k ∧ (∀ x ∈ l, x ∈ k.all e) ∧
      rows = slicedArrays l K.cycleLength K.reps := by
  cases hf : K.findKernel count with
  | none => simp [heraldedCycle, stabilizerAndProjectedCycle, projectedCycle, hf] at h
  | some k =>
    simp only [heraldedCycle, stabilizerAndProjectedCycle, projectedCycle, hf, Option.map_some,
      Option.some.injEq] at h
    rcases h with h | h | h
    · exact ⟨k, _, rfl, fun x hx => by simp [RepKernel.all, hx], h.symm⟩
    · refine ⟨k, _, rfl, fun x hx => ?_, h.symm⟩
      rw [RepKernel.all, List.append_assoc]
      exact List.mem_append_right _ hx
    · exact ⟨k, _, rfl, fun x hx => by simp [RepKernel.all, hx], h.symm⟩

/-- the two calibration getters answer (only with the flag set) with slices of categories of the calibration kernel -/
theorem mem_calGetter {K : ExpKernel} {e : QId} {s : StateKey} {x : Int}
    (hx : x ∈ K.projectedCalibration e s ++ K.heraldedCalibration e s) :
    K.qutrit = true ∧ ∃ j, j < K.reps ∧ ∃ y ∈ K.calKernel.all e, x = y + (j : Int) * K.cycleLength := by
  cases hq : K.qutrit with
  | false => simp [projectedCalibration, heraldedCalibration, hq] at hx
  | true =>
    simp only [projectedCalibration, heraldedCalibration, hq, if_true, List.mem_append, mem_slicedArray] at hx
    rcases hx with ⟨j, hj, y, hy, rfl⟩ | ⟨j, hj, y, hy, rfl⟩
    · exact ⟨rfl, j, hj, y, CalKernel.mem_all_of_mem_projectedState hy, rfl⟩
    · exact ⟨rfl, j, hj, y, CalKernel.mem_all_of_mem_heraldedState hy, rfl⟩

end ExpKernel

end Qco.Kernel
