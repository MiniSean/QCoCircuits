import QcoVerif.Lemmas.C10ParamCheck
/-
  C10, parametric layer lemmas: the layered check arranged for evaluation by the kernel.

  `sepB` compares every operation of a path with every operation of every other path of its layer and `blockOkB`
  searches the layers once for every node of the block; the kernel pays some thousand steps per pair.  Here a set of
  small numbers is ONE `Nat` read as a bit mask (`natSet`; the kernel computes `|||`, `&&&`, `>>>` on literals with
  GMP): the channels a path occupies (`sepM`: two paths with disjoint channel sets cannot conflict), the nodes a
  sequence of layers contains.  `nestedM` is `nestedB` with these two tests; what it accepts, `nestedB` accepts
  (`nestedM_imp`, `layeredOkM_imp`).
-/
namespace Qco.C10Param

open Qco Qco.C10

def natSet : List Nat → Nat
  | [] => 0
  | i :: l => 1 <<< i ||| natSet l

theorem testBit_natSet (l : List Nat) (i : Nat) : (natSet l).testBit i = true ↔ i ∈ l := by
  induction l with
  | nil => simp [natSet]
  | cons j l ih =>
    rw [natSet, Nat.testBit_or, Nat.one_shiftLeft, Nat.testBit_two_pow, Bool.or_eq_true, ih, decide_eq_true_eq,
      List.mem_cons, eq_comm]

theorem not_mem_of_natSet_and {A B : List Nat} (h : natSet A &&& natSet B = 0) {i : Nat} (hA : i ∈ A) : i ∉ B := by
  intro hB
  have := Nat.testBit_and (natSet A) (natSet B) i
  rw [h, Nat.zero_testBit, (testBit_natSet A i).mpr hA, (testBit_natSet B i).mpr hB] at this
  cases this

/-- the bits of a channel identifier: three per qubit (readout, microwave, flux), `ALL` has the three of its qubit,
    so that two identifiers that match have a bit in common. -/
def chanBits (x : ChId) : List Nat :=
  match x.c with
  | .ro => [3 * x.q.toNat]
  | .mw => [3 * x.q.toNat + 1]
  | .fl => [3 * x.q.toNat + 2]
  | .all => [3 * x.q.toNat, 3 * x.q.toNat + 1, 3 * x.q.toNat + 2]

theorem chanBits_of_matches {x y : ChId} (h : x.matches y = true) : ∃ i ∈ chanBits x, i ∈ chanBits y := by
  obtain ⟨q, c⟩ := x
  obtain ⟨q', c'⟩ := y
  simp only [ChId.matches, Bool.and_eq_true, beq_iff_eq] at h
  obtain ⟨rfl, h⟩ := h
  cases c <;> cases c' <;> simp [chanBits] at h ⊢

/-- the bits of all channels of the leaf operations at or below the nodes of `c`. -/
def chainBits (op : Nat → Op) (f : Nat) (c : List Nat) : List Nat :=
  c.flatMap (fun x => (leavesF op f x).flatMap (fun a => (op a).leafChans.flatMap chanBits))

/-- no two paths of the layer have a channel in common. -/
def sepM (op : Nat → Op) (f : Nat) (L : LayerData) : Bool :=
  L.chains.all (fun c => L.chains.all (fun c' => c == c' ||
    natSet (chainBits op f c) &&& natSet (chainBits op f c') == 0))

theorem sepM_imp {op : Nat → Op} {w : World} {R : Regime} {f : Nat} {L : LayerData} (h : sepM op f L = true) :
    sepB op w R f L = true := by
  unfold sepM at h
  unfold sepB
  simp only [List.all_eq_true, Bool.or_eq_true, beq_iff_eq, Bool.not_eq_true'] at h ⊢
  intro c hc c' hc'
  refine (h c hc c' hc').imp_right fun hdis x hx y hy a ha b hb => ?_
  -- an operation of `c` and one of `c'` that share a channel would put a bit into both masks
  cases hsh : sharesChannel (op a) (op b) with
  | false => simp [confB, hsh]
  | true =>
    simp only [sharesChannel, List.any_eq_true] at hsh
    obtain ⟨u, hu, v, hv, hm⟩ := hsh
    obtain ⟨i, hi, hi'⟩ := chanBits_of_matches hm
    have hA : i ∈ chainBits op f c :=
      List.mem_flatMap.mpr ⟨x, hx, List.mem_flatMap.mpr ⟨a, ha, List.mem_flatMap.mpr ⟨u, hu, hi⟩⟩⟩
    have hB : i ∈ chainBits op f c' :=
      List.mem_flatMap.mpr ⟨y, hy, List.mem_flatMap.mpr ⟨b, hb, List.mem_flatMap.mpr ⟨v, hv, hi'⟩⟩⟩
    exact absurd hB (not_mem_of_natSet_and hdis hA)

/-! ### the check

`seqOkM`, `blockOkM`, `nestedM` are `seqOkB`, `blockOkB`, `nestedB` with `sepM` tried before `sepB` (layers in which
operations of zero length share a qubit across paths need the latter) and the nodes of a sequence of layers looked up
in their mask. -/

def seqOkM (op : Nat → Op) (lnk : Nat → Link) (w : World) (R : Regime) (X : Nat) (L : LayerData)
    (rest : List LayerData) (f : Nat) : Bool :=
  internalB op lnk L.chains &&
  headsAll L.chains (fun x => (op x).link == (op X).link) &&
  !L.main.isEmpty && L.chains.contains L.main &&
  domB op w R L &&
  layersB op lnk w R (lastOf 0 L.main) rest &&
  (L :: rest).all (sideB op) &&
  (L :: rest).all (fun L' => sepM op f L' || sepB op w R f L')

def blockOkM (op : Nat → Op) (lnk : Nat → Link) (w : World) (R : Regime) (X : Nat) (seqs : List (List LayerData))
    (f : Nat) : Bool :=
  (op X).isComp &&
  !decide ((lnk (op X).link).rel = .je) &&
  seqs.all (fun s => match s with
    | [] => false
    | L :: rest => seqOkM op lnk w R X L rest f) &&
  (op X).graph.all (fun e => seqs.any (fun s => (natSet (layerOps s)).testBit e.node)) &&
  seqs.any (fun s => match s with
    | [] => false
    | L :: _ => match L.main with
      | [] => false
      | x :: _ => (op X).graph.any (fun e => e.parent.isNone && e.node == x)) &&
  crossB op w R f seqs

def nestedM (op : Nat → Op) (lnk : Nat → Link) (w : World) (R : Regime) (cert : Nat → List (List LayerData)) :
    Nat → Nat → Bool
  | 0, _ => false
  | f+1, X => !(op X).isComp ||
      (blockOkM op lnk w R X (cert X) f && (op X).graph.all (fun e => nestedM op lnk w R cert f e.node))

variable {op : Nat → Op} {lnk : Nat → Link} {w : World} {R : Regime}

theorem seqOkM_imp {X : Nat} {L : LayerData} {rest : List LayerData} {f : Nat}
    (h : seqOkM op lnk w R X L rest f = true) : seqOkB op lnk w R X L rest f = true := by
  unfold seqOkM at h
  unfold seqOkB
  rw [Bool.and_eq_true] at h ⊢
  refine ⟨h.1, ?_⟩
  rw [List.all_eq_true] at h ⊢
  intro L' hL'
  have := h.2 L' hL'
  rw [Bool.or_eq_true] at this
  exact this.elim sepM_imp id

theorem blockOkM_imp {X : Nat} {seqs : List (List LayerData)} {f : Nat}
    (h : blockOkM op lnk w R X seqs f = true) : blockOkB op lnk w R X seqs f = true := by
  unfold blockOkM at h
  unfold blockOkB
  simp only [Bool.and_eq_true] at h ⊢
  obtain ⟨⟨⟨⟨hX, hseq⟩, hcov⟩, hhead⟩, hcross⟩ := h
  refine ⟨⟨⟨⟨hX, ?_⟩, ?_⟩, hhead⟩, hcross⟩
  · rw [List.all_eq_true] at hseq ⊢
    intro s hs
    have := hseq s hs
    cases s with
    | nil => exact this
    | cons L rest => exact seqOkM_imp this
  · simp only [List.all_eq_true, List.any_eq_true, testBit_natSet] at hcov
    simpa only [List.all_eq_true, List.any_eq_true, List.contains_iff_mem] using hcov

theorem nestedM_imp {cert : Nat → List (List LayerData)} :
    ∀ (f X : Nat), nestedM op lnk w R cert f X = true → nestedB op lnk w R cert f X = true := by
  intro f
  induction f with
  | zero => intro X h; exact h
  | succ f ih =>
    intro X h
    simp only [nestedM, nestedB, Bool.or_eq_true, Bool.and_eq_true, List.all_eq_true] at h ⊢
    exact h.imp_right fun h => ⟨blockOkM_imp h.1, fun e he => ih e.node (h.2 e he)⟩

/-- `f d` with `d` brought to constructor form first: the kernel then evaluates `f` once for every strategy that
    occurs in the heap and not once for every operation. -/
def forceDur {α} (f : Dur → α) : Dur → α
  | .fixed x => f (.fixed x)
  | .glob k => f (.glob k)
  | .reg k => f (.reg k)
  | .decoupling => f .decoupling

theorem forceDur_eq {α} (f : Dur → α) (d : Dur) : forceDur f d = f d := by cases d <;> rfl

/-- `layeredOkF` with the duration strategies forced and `nestedM`. -/
def layeredOkM (op : Nat → Op) (lnk : Nat → Link) (w : World) (R : Regime) (cert : Nat → List (List LayerData))
    (c : Nat) : Bool :=
  (op c).isComp && w.ops.toList.all (fun o => forceDur (fun d => (durForm R w d).isNonneg) o.dur) &&
  nestedM op lnk w R cert (w.ops.size + 2) c

theorem layeredOkM_imp {cert : Nat → List (List LayerData)} {c : Nat} (h : layeredOkM op lnk w R cert c = true) :
    layeredOkF op lnk w R cert c = true := by
  unfold layeredOkM at h
  unfold layeredOkF dursNonnegB
  simp only [forceDur_eq, Bool.and_eq_true] at h ⊢
  exact ⟨h.1, nestedM_imp _ _ h.2⟩

end Qco.C10Param
