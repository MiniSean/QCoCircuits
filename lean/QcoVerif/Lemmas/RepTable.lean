import QcoVerif.Lemmas.RepChainFacts
import QcoVerif.Lemmas.RepGeneric
import QcoVerif.Generated.RepLayouts
/-
  C09: the table of descriptions covered by the `_partial` theorems.  Chain descriptions are instances of
  `RepChain.chain_facts_all`; for the generated layout tables the round of each description is evaluated
  once, symbolically (`checkRound`).
-/
namespace Qco.RepCode
open Qco.StimSem

/-- the chain descriptions with 0 … 9 data qubits (length ≤ 17) -/
def chainTable : List Desc := (List.range 10).map fun dist => chainDesc dist true

/-- the descriptions (with container shape) the `_partial` theorems cover -/
def allEntries : List (Desc × Nat × Nat) :=
  entries chainTable ++ entries Qco.Generated.RepLayouts.repetition9Code ++
  entries Qco.Generated.RepLayouts.repetition9Round6Code ++ entries Qco.Generated.RepLayouts.repetition5Round4Code

theorem checkAll_repetition9Code : checkAll Qco.Generated.RepLayouts.repetition9Code = true := by decide +kernel
theorem checkAll_repetition9Round6Code : checkAll Qco.Generated.RepLayouts.repetition9Round6Code = true := by decide +kernel
theorem checkAll_repetition5Round4Code : checkAll Qco.Generated.RepLayouts.repetition5Round4Code = true := by decide +kernel

/-- the table entries of chain descriptions: all data states, no or all `n - 1` ancilla states -/
theorem facts_of_mem_chains {ns : List Nat} {e : Desc × Nat × Nat}
    (he : e ∈ entries (ns.map fun n => chainDesc n true)) : Facts e.1 e.2.1 e.2.2 := by
  simp only [entries, List.mem_flatMap, List.mem_map] at he
  obtain ⟨_, ⟨n, _, rfl⟩, r, _, nA, hnA, rfl⟩ := he
  have hA : nA ≤ n - 1 := by
    rw [Qco.RepChain.chain_ancIdx_length] at hnA
    split at hnA <;> simp at hnA <;> omega
  rw [Qco.RepChain.chain_dataIdx_length]
  exact Qco.RepChain.chain_facts_all n r n nA (Nat.le_refl n) hA

theorem facts_of_mem {e : Desc × Nat × Nat} (he : e ∈ allEntries) : Facts e.1 e.2.1 e.2.2 := by
  simp only [allEntries, List.mem_append] at he
  rcases he with ((h | h) | h) | h
  · exact facts_of_mem_chains h
  · exact facts_of_checkAll checkAll_repetition9Code h
  · exact facts_of_checkAll checkAll_repetition9Round6Code h
  · exact facts_of_checkAll checkAll_repetition5Round4Code h

end Qco.RepCode
