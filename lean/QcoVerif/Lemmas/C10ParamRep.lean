import QcoVerif.Lemmas.C10ParamFast
/-
  C10: the timing evaluator never reads a repetition count.

  As constructed (before `apply_modifiers`) the heap of `construct_repetition_code_circuit(qec_cycles = k)` is, for
  every `k ≥ 4`, the heap for `k = 4` with ONE field changed: the repetition strategy of the middle block
  (`FixedRepetitionStrategy(k - 3)`; the recorder shows it in the block and in its two copies).  `RepEquiv w w'`:
  the two heaps agree in everything but repetition strategies.  Then all six evaluator functions agree
  (`ev_repEquiv`) and so does `NoDoubleBooking` (`noDoubleBooking_repEquiv`).
-/
namespace Qco.C10Param

open Qco Qco.C10

def noRep (o : Op) : Op := { o with rep := .fixed 1 }

structure RepEquiv (w w' : World) : Prop where
  ops : ∀ i, noRep (w'.op i) = noRep (w.op i)
  lnk : ∀ l, w'.lnk l = w.lnk l
  dur : ∀ d, w'.leafDur d = w.leafDur d
  size : w'.ops.size = w.ops.size

namespace RepEquiv

variable {w w' : World} (h : RepEquiv w w')
include h

theorem isComp (i : Nat) : (w'.op i).isComp = (w.op i).isComp := by
  have := congrArg Op.cls (h.ops i)
  simp only [noRep] at this
  unfold Op.isComp; rw [this]

theorem graph (i : Nat) : (w'.op i).graph = (w.op i).graph := by
  have := congrArg Op.graph (h.ops i)
  simpa [noRep] using this

theorem opDur (i : Nat) : (w'.op i).dur = (w.op i).dur := by
  have := congrArg Op.dur (h.ops i)
  simpa [noRep] using this

theorem link (i : Nat) : (w'.op i).link = (w.op i).link := by
  have := congrArg Op.link (h.ops i)
  simpa [noRep] using this

theorem cls (i : Nat) : (w'.op i).cls = (w.op i).cls := by
  have := congrArg Op.cls (h.ops i)
  simpa [noRep] using this

theorem leafChans (i : Nat) : (w'.op i).leafChans = (w.op i).leafChans := by
  have h1 := congrArg Op.cls (h.ops i)
  have h2 := congrArg Op.qs (h.ops i)
  have h3 := congrArg Op.chan (h.ops i)
  simp only [noRep] at h1 h2 h3
  unfold Op.leafChans
  rw [h1, h2, h3]

end RepEquiv

/-- **the evaluator never reads a repetition strategy.** -/
theorem ev_repEquiv {w w' : World} (h : RepEquiv w w') : ∀ f : Nat,
    (∀ o, evLeadSpan w' f o = evLeadSpan w f o) ∧ (∀ o, evInterval w' f o = evInterval w f o) ∧
    (∀ o, evDur w' f o = evDur w f o) ∧ (∀ o, evStart w' f o = evStart w f o) ∧
    (∀ o, evEnd w' f o = evEnd w f o) ∧ (∀ l, evRef w' f l = evRef w f l) := by
  intro f
  induction f with
  | zero =>
    refine ⟨?_, ?_, ?_, ?_, ?_, ?_⟩ <;> intro o
    · rw [evLeadSpan.eq_1, evLeadSpan.eq_1]
    · rw [evInterval.eq_1, evInterval.eq_1]
    · rw [evDur.eq_1, evDur.eq_1]
    · rw [evStart.eq_1, evStart.eq_1]
    · rw [evEnd.eq_1, evEnd.eq_1]
    · rw [evRef.eq_1, evRef.eq_1]
  | succ f ih =>
    obtain ⟨ihLS, ihIv, ihD, ihS, ihE, ihR⟩ := ih
    refine ⟨?_, ?_, ?_, ?_, ?_, ?_⟩
    · intro o
      rw [evLeadSpan.eq_2, evLeadSpan.eq_2]
      simp only [h.isComp, h.graph, h.opDur, h.dur, ihS, ihIv]
    · intro o
      rw [evInterval.eq_2, evInterval.eq_2]
      simp only [ihS, ihLS]
    · intro o
      rw [evDur.eq_2, evDur.eq_2, ihLS]
    · intro o
      rw [evStart_succ, evStart_succ]
      simp only [h.link, h.lnk, ihD, ihR, ihS, ihE]
    · intro o
      rw [evEnd.eq_2, evEnd.eq_2]
      simp only [ihS, ihD]
    · intro l
      rw [evRef.eq_2, evRef.eq_2]
      simp only [h.lnk, ihE]

theorem contents_repEquiv {w w' : World} (h : RepEquiv w w') : ∀ (f c : Nat), contents w' f c = contents w f c := by
  intro f
  induction f with
  | zero => intro c; rfl
  | succ f ih =>
    intro c
    show ((w'.op c).graph.flatMap (fun e => if (w'.op e.node).isComp then contents w' f e.node else [e.node])) =
      ((w.op c).graph.flatMap (fun e => if (w.op e.node).isComp then contents w f e.node else [e.node]))
    simp only [h.graph, h.isComp, ih]

theorem noDoubleBooking_repEquiv {w w' : World} (h : RepEquiv w w') {c : Nat} (hw : NoDoubleBooking w c) :
    NoDoubleBooking w' c := by
  intro a ha b hb hab hsh sa ea sb eb hsa hea hsb heb hreq
  rw [h.size, contents_repEquiv h] at ha hb
  have hS : ∀ o v, Start w' o v → Start w o v := fun o v ⟨f, hf⟩ => ⟨f, by rw [← (ev_repEquiv h f).2.2.2.1 o]; exact hf⟩
  have hE : ∀ o v, End w' o v → End w o v := fun o v ⟨f, hf⟩ => ⟨f, by rw [← (ev_repEquiv h f).2.2.2.2.1 o]; exact hf⟩
  have hsh' : sharesChannel (w.op a) (w.op b) = true := by
    unfold sharesChannel at hsh ⊢
    rw [h.leafChans a, h.leafChans b] at hsh
    exact hsh
  rw [h.cls a, h.cls b] at hreq
  exact hw a ha b hb hab hsh' sa ea sb eb (hS a sa hsa) (hE a ea hea) (hS b sb hsb) (hE b eb heb) hreq

theorem leafDur_congr {w w' : World} (hro : w'.gRo = w.gRo) (hmw : w'.gMw = w.gMw) (hfl : w'.gFl = w.gFl)
    (hrs : w'.gRs = w.gRs) (hreg : w'.dreg = w.dreg) (d : Dur) : w'.leafDur d = w.leafDur d := by
  cases d with
  | fixed x => rfl
  | glob k => cases k <;> simp only [World.leafDur, World.gdur, hro, hmw, hfl, hrs]
  | reg key => simp only [World.leafDur, hreg]
  | decoupling => simp only [World.leafDur, hro, hmw]

theorem RepEquiv.withDurations {w w' : World} (h : RepEquiv w w') (ro mw fl rs : Int)
    (hreg : w'.dreg = w.dreg) : RepEquiv (withDurations w ro mw fl rs) (withDurations w' ro mw fl rs) where
  ops := h.ops
  lnk := h.lnk
  dur := leafDur_congr rfl rfl rfl rfl hreg
  size := h.size

def withReps (w : World) (g : Nat → Rep) : World :=
  { w with ops := w.ops.mapIdx (fun i o => { o with rep := g i }) }

theorem repEquiv_withReps (w : World) (g : Nat → Rep) : RepEquiv w (withReps w g) where
  ops := by
    intro i
    unfold World.op withReps
    simp only [Array.getD_eq_getD_getElem?, Array.getElem?_mapIdx]
    cases w.ops[i]? with
    | none => rfl
    | some o => rfl
  lnk := fun _ => rfl
  dur := fun _ => rfl
  size := by simp [withReps]

theorem withReps_dreg (w : World) (g : Nat → Rep) : (withReps w g).dreg = w.dreg := rfl

deriving instance DecidableEq for Op

def repEquivB (x y : TCase) : Bool :=
  decide (x.n = y.n) && decide (x.m = y.m) && decide (x.dreg = y.dreg) &&
  (List.range x.n).all (fun i => decide (noRep (trieGet y.opsT default y.n i) = noRep (trieGet x.opsT default x.n i))) &&
  (List.range x.m).all (fun l => decide (trieGet y.lnkT default y.m l = trieGet x.lnkT default x.m l))

theorem repEquivB_sound {x y : TCase} (h : repEquivB x y = true) : RepEquiv x.w y.w ∧ y.w.dreg = x.w.dreg := by
  unfold repEquivB at h
  simp only [Bool.and_eq_true, decide_eq_true_eq, List.all_eq_true, List.mem_range] at h
  obtain ⟨⟨⟨⟨hn, hm⟩, hdreg⟩, hops⟩, hlnk⟩ := h
  refine ⟨⟨?_, ?_, ?_, ?_⟩, ?_⟩
  · intro i
    unfold TCase.w
    rw [mkWorld_op, mkWorld_op]
    by_cases hi : i < x.n
    · exact hops i hi
    · have hi' : ¬ i < y.n := by rw [← hn]; exact hi
      simp [trieGet, hi, hi']
  · intro l
    unfold TCase.w
    rw [mkWorld_lnk, mkWorld_lnk]
    by_cases hl : l < x.m
    · exact hlnk l hl
    · have hl' : ¬ l < y.m := by rw [← hm]; exact hl
      simp [trieGet, hl, hl']
  · exact leafDur_congr rfl rfl rfl rfl hdreg.symm
  · rw [TCase.size_w, TCase.size_w, hn]
  · simp [TCase.w, mkWorld, hdreg]

end Qco.C10Param
