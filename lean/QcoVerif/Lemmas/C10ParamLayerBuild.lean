import QcoVerif.Lemmas.C10ParamProg
/-
  C10, parametric layer lemmas: a LAYER as the builder makes it.

  `LInv` is the invariant of a flat block under construction by program steps (`addNew`).  Three kinds of steps keep
  it, for any number of paths and any path lengths: an operation starts a new path (`step_new`), extends a path
  (`step_ext`), or closes the layer and becomes the opener of the next one (`step_close`) — in each case because of
  where `add` hangs an operation: below the matching node with the greatest path key (`pickParent_of_max`).
-/
namespace Qco.C10Param

open Qco Qco.C10

/-- the entries of a path below `parent`, with keys `key, key ++ [0], key ++ [0, 0], …`. -/
def PathAt (g : List Entry) : Option Nat → List Nat → List Nat → Prop
  | _, _, [] => True
  | parent, key, x :: xs => (⟨x, parent, key⟩ : Entry) ∈ g ∧ PathAt g (some x) (key ++ [0]) xs

/-- the paths of a layer: the `i`-th path starts with key `kb ++ [i]`. -/
def GroupsAt (g : List Entry) (opener : Option Nat) (kb : List Nat) : Nat → List (List Nat) → Prop
  | _, [] => True
  | i, G :: rest => PathAt g opener (kb ++ [i]) G ∧ G ≠ [] ∧ GroupsAt g opener kb (i + 1) rest

theorem PathAt.mono {g g' : List Entry} (h : ∀ e ∈ g, e ∈ g') : ∀ {xs : List Nat} {parent : Option Nat}
    {key : List Nat}, PathAt g parent key xs → PathAt g' parent key xs := by
  intro xs
  induction xs with
  | nil => intro _ _ _; trivial
  | cons x xs ih => intro parent key hp; exact ⟨h _ hp.1, ih hp.2⟩

theorem GroupsAt.mono {g g' : List Entry} (h : ∀ e ∈ g, e ∈ g') {opener : Option Nat} {kb : List Nat} :
    ∀ {gs : List (List Nat)} {i : Nat}, GroupsAt g opener kb i gs → GroupsAt g' opener kb i gs := by
  intro gs
  induction gs with
  | nil => intro _ _; trivial
  | cons G rest ih => intro i hg; exact ⟨hg.1.mono h, hg.2.1, ih hg.2.2⟩

theorem groupsAt_append {g : List Entry} {opener : Option Nat} {kb : List Nat} :
    ∀ {A B : List (List Nat)} {i : Nat},
      GroupsAt g opener kb i (A ++ B) ↔ GroupsAt g opener kb i A ∧ GroupsAt g opener kb (i + A.length) B := by
  intro A
  induction A with
  | nil => intro B i; simp [GroupsAt]
  | cons G rest ih =>
    intro B i
    simp only [List.cons_append, GroupsAt, List.length_cons]
    rw [ih, Nat.add_right_comm i 1, Nat.add_assoc i, and_assoc, and_assoc]

theorem append_zero_replicate (key : List Nat) (j : Nat) :
    key ++ [0] ++ List.replicate j 0 = key ++ List.replicate (j + 1) 0 := by
  simp [List.replicate_succ]

/-- parent of the element that follows the path `xs` (hanging below `parent`). -/
def nextParent (parent : Option Nat) : List Nat → Option Nat
  | [] => parent
  | x :: xs => nextParent (some x) xs

theorem nextParent_snoc (parent : Option Nat) (xs : List Nat) (x : Nat) : nextParent parent (xs ++ [x]) = some x := by
  induction xs generalizing parent with
  | nil => rfl
  | cons y ys ih => exact ih (some y)

theorem pathAt_snoc {g : List Entry} : ∀ {xs : List Nat} {parent : Option Nat} {key : List Nat} {o : Nat},
    PathAt g parent key (xs ++ [o]) ↔
      PathAt g parent key xs ∧ (⟨o, nextParent parent xs, key ++ List.replicate xs.length 0⟩ : Entry) ∈ g := by
  intro xs
  induction xs with
  | nil => intro parent key o; simp [PathAt, nextParent]
  | cons y ys ih =>
    intro parent key o
    simp only [List.cons_append, PathAt, nextParent, List.length_cons]
    rw [ih, append_zero_replicate, and_assoc]

theorem PathAt.last_entry {g : List Entry} {pre : List Nat} {parent : Option Nat} {key : List Nat} {x : Nat}
    (h : PathAt g parent key (pre ++ [x])) : ∃ p, (⟨x, p, key ++ List.replicate pre.length 0⟩ : Entry) ∈ g :=
  ⟨_, (pathAt_snoc.mp h).2⟩

theorem PathAt.entry_of_mem {g : List Entry} : ∀ {xs : List Nat} {parent : Option Nat} {key : List Nat} {y : Nat},
    PathAt g parent key xs → y ∈ xs →
      ∃ p j, j < xs.length ∧ (⟨y, p, key ++ List.replicate j 0⟩ : Entry) ∈ g := by
  intro xs
  induction xs with
  | nil => intro _ _ y _ hy; cases hy
  | cons x xs ih =>
    intro parent key y h hy
    cases hy with
    | head => exact ⟨parent, 0, by simp, by simpa using h.1⟩
    | tail _ hy' =>
      obtain ⟨p, j, hj, hmem⟩ := ih h.2 hy'
      exact ⟨p, j + 1, Nat.succ_lt_succ hj, append_zero_replicate key j ▸ hmem⟩

/-- The flat block `c` has been built by program steps; `opener` (if any) is the node with the greatest path key `kb`
    among the nodes of the finished layers; `groups` are the paths of the open layer in creation order — the `j`-th
    operation of the `i`-th path has the path key `kb ++ i :: 0 … 0` (`j` zeros); every operation carries a single
    FOLLOWED_BY link to its parent in the relation tree (no reference for depth-1 nodes); `desc` remembers the
    description each operation was created from. -/
structure LInv (w : World) (c : Nat) (desc : Nat → Op) (opener : Option Nat) (kb : List Nat)
    (groups : List (List Nat)) : Prop where
  flat : FlatBlock w c
  built : Built (w.op c).graph
  openerOk : ∀ b, opener = some b → (∃ e ∈ (w.op c).graph, e.node = b ∧ e.key = kb) ∧ b ∉ groups.flatten
  openerNone : opener = none → kb = []
  groupsAt : GroupsAt (w.op c).graph opener kb 0 groups
  cover : ∀ e ∈ (w.op c).graph, e.node ∈ groups.flatten ∨ e.key.length ≤ kb.length ∧ keyLe e.key kb = true
  sibOpener : sibCount (w.op c).graph opener = groups.length
  sibLast : ∀ G ∈ groups, ∀ pre x, G = pre ++ [x] → sibCount (w.op c).graph (some x) = 0
  descOk : ∀ e ∈ (w.op c).graph, (w.op e.node).leafChans = (desc e.node).leafChans ∧
    (w.op e.node).dur = (desc e.node).dur
  links : ∀ e ∈ (w.op c).graph, (w.op e.node).link < w.links.size ∧
    (w.lnk (w.op e.node).link).multi = false ∧ (w.lnk (w.op e.node).link).rel = .fb ∧
    (w.lnk (w.op e.node).link).refs = e.parent.toList

theorem sharesChannel_congr_right {d a b : Op} (h : a.leafChans = b.leafChans) :
    sharesChannel d a = sharesChannel d b := by
  unfold sharesChannel; rw [h]

theorem leafChans_with_link (d : Op) (l : Nat) : ({ d with link := l } : Op).leafChans = d.leafChans := rfl

/-- the nodes of the graph of a flat block are smaller than the heap size, hence different from the next object. -/
theorem FlatBlock.fresh {w : World} {c : Nat} (h : FlatBlock w c) : inGraph (w.op c).graph w.ops.size = false := by
  rw [inGraph_false_iff]
  intro e he heq
  have := (h.2 e he).1
  omega

theorem mem_flatten_middle {α} {A B : List (List α)} {G : List α} {y : α} :
    y ∈ (A ++ G :: B).flatten ↔ y ∈ G ∨ y ∈ (A ++ B).flatten := by
  simp only [List.flatten_append, List.flatten_cons, List.mem_append]
  exact or_left_comm

theorem snoc_inj {α} {l l' : List α} {a a' : α} (h : l ++ [a] = l' ++ [a']) : l = l' ∧ a = a' := by
  have := List.append_inj' h rfl
  exact ⟨this.1, by simpa using this.2⟩

theorem split_cases {α} {A B A' B' : List α} {G G' : α} (h : A ++ G :: B = A' ++ G' :: B') :
    (A'.length < A.length ∧ G' ∈ A) ∨ (A' = A ∧ G' = G ∧ B' = B) ∨ (A.length < A'.length ∧ G' ∈ B) := by
  induction A generalizing A' with
  | nil =>
    cases A' with
    | nil =>
      simp only [List.nil_append, List.cons.injEq] at h
      exact Or.inr (Or.inl ⟨rfl, h.1.symm, h.2.symm⟩)
    | cons a as =>
      simp only [List.nil_append, List.cons_append, List.cons.injEq] at h
      right; right
      refine ⟨by simp, ?_⟩
      rw [h.2]; simp
  | cons x xs ih =>
    cases A' with
    | nil =>
      simp only [List.nil_append, List.cons_append, List.cons.injEq] at h
      left
      exact ⟨by simp, by rw [← h.1]; simp⟩
    | cons a as =>
      simp only [List.cons_append, List.cons.injEq] at h
      rcases ih h.2 with ⟨h1, h2⟩ | ⟨h1, h2, h3⟩ | ⟨h1, h2⟩
      · left; exact ⟨by simp; omega, List.mem_cons_of_mem _ h2⟩
      · right; left; exact ⟨by rw [h.1, h1], h2, h3⟩
      · right; right; exact ⟨by simp; omega, h2⟩

def descUpd (desc : Nat → Op) (o : Nat) (d : Op) : Nat → Op := fun x => if x = o then d else desc x

/-- the heap-level facts after a program step that hangs the new operation below `par` with path key `key`. -/
structure StepFacts (w : World) (c : Nat) (desc : Nat → Op) (d : Op) (par : Option Nat) (key : List Nat)
    (W : World) : Prop where
  graph : (W.op c).graph = (w.op c).graph ++ [⟨w.ops.size, par, key⟩]
  flat : FlatBlock W c
  built : Built (W.op c).graph
  descOk : ∀ e ∈ (W.op c).graph, (W.op e.node).leafChans = (descUpd desc w.ops.size d e.node).leafChans ∧
    (W.op e.node).dur = (descUpd desc w.ops.size d e.node).dur
  links : ∀ e ∈ (W.op c).graph, (W.op e.node).link < W.links.size ∧
    (W.lnk (W.op e.node).link).multi = false ∧ (W.lnk (W.op e.node).link).rel = .fb ∧
    (W.lnk (W.op e.node).link).refs = e.parent.toList

theorem LInv.shares {w : World} {c : Nat} {desc : Nat → Op} {opener : Option Nat} {kb : List Nat}
    {groups : List (List Nat)} (h : LInv w c desc opener kb groups) (d : Op) {e : Entry}
    (he : e ∈ (w.op c).graph) : sharesChannel d (w.op e.node) = sharesChannel d (desc e.node) :=
  sharesChannel_congr_right (h.descOk e he).1

section
variable {w : World} {c : Nat} {desc : Nat → Op} {opener : Option Nat} {kb : List Nat} {groups : List (List Nat)}
  {A B : List (List Nat)} {G pre : List Nat} {x : Nat} {d : Op} {par : Option Nat} {key : List Nat} {W : World}

theorem LInv.node_lt (h : LInv w c desc opener kb groups) {e : Entry} (he : e ∈ (w.op c).graph) :
    e.node < w.ops.size := (h.flat.2 e he).1

theorem step_common (h : LInv w c desc opener kb groups) (hd : d.isComp = false)
    (hpick : pickParent w c d = par) (hpar : ∀ q, par = some q → inGraph (w.op c).graph q = true)
    (hkey : baseKey (w.op c).graph par ++ [sibCount (w.op c).graph par] = key) :
    StepFacts w c desc d par key (addNew c w d) := by
  have hs := addNew_spec w c d h.flat hd
  have hgraph : ((addNew c w d).op c).graph = (w.op c).graph ++ [⟨w.ops.size, par, key⟩] := by
    rw [hs.graph, hpick, attach_def, hkey]
  obtain ⟨l, hop, hl1, hl2, hm, hr, hrefs⟩ := hs.newOp
  rw [hpick] at hrefs
  have hcases : ∀ e ∈ ((addNew c w d).op c).graph,
      (e ∈ (w.op c).graph ∧ (addNew c w d).op e.node = w.op e.node) ∨ e = ⟨w.ops.size, par, key⟩ := by
    intro e he
    rw [hgraph, List.mem_append, List.mem_singleton] at he
    rcases he with he | he
    · obtain ⟨h1, h2, _⟩ := h.flat.2 e he
      exact Or.inl ⟨he, hs.opOld _ h1 h2⟩
    · exact Or.inr he
  refine ⟨hgraph, ⟨by rw [hs.size]; exact Nat.lt_succ_of_lt h.flat.1, fun e he => ?_⟩, ?_, fun e he => ?_,
    fun e he => ?_⟩
  · rcases hcases e he with ⟨he, hop'⟩ | rfl
    · obtain ⟨h1, h2, h3⟩ := h.flat.2 e he
      exact ⟨by rw [hs.size]; exact Nat.lt_succ_of_lt h1, h2, by rw [hop']; exact h3⟩
    · exact ⟨by rw [hs.size]; exact Nat.lt_succ_self _, Nat.ne_of_gt h.flat.1, by
        show ((addNew c w d).op w.ops.size).isComp = false
        rw [hop]; exact hd⟩
  · rw [hgraph, ← hkey, ← attach_def]
    exact built_attach h.built par _ hpar h.flat.fresh
  · rcases hcases e he with ⟨he, hop'⟩ | rfl
    · rw [hop', descUpd, if_neg (Nat.ne_of_lt (h.node_lt he))]
      exact h.descOk e he
    · show ((addNew c w d).op w.ops.size).leafChans = _ ∧ ((addNew c w d).op w.ops.size).dur = _
      rw [hop, descUpd, if_pos rfl]
      exact ⟨rfl, rfl⟩
  · rcases hcases e he with ⟨he, hop'⟩ | rfl
    · obtain ⟨k1, k2, k3, k4⟩ := h.links e he
      rw [hop', hs.lnkOld _ k1]
      exact ⟨Nat.lt_of_lt_of_le k1 hs.linksGrow, k2, k3, k4⟩
    · show ((addNew c w d).op w.ops.size).link < _ ∧ _
      rw [hop]
      exact ⟨hl2, hm, hr, hrefs⟩

theorem StepFacts.mono (hf : StepFacts w c desc d par key W) : ∀ e ∈ (w.op c).graph, e ∈ (W.op c).graph :=
  fun e he => by rw [hf.graph]; exact List.mem_append_left _ he

theorem StepFacts.new_mem (hf : StepFacts w c desc d par key W) :
    (⟨w.ops.size, par, key⟩ : Entry) ∈ (W.op c).graph := by
  rw [hf.graph]; exact List.mem_append_right _ List.mem_cons_self

theorem StepFacts.sib_self (hf : StepFacts w c desc d par key W) :
    sibCount (W.op c).graph par = sibCount (w.op c).graph par + 1 := by
  rw [hf.graph]; rw [sibCount_snoc, if_pos rfl]

theorem StepFacts.sib_of_ne (hf : StepFacts w c desc d par key W) {q : Option Nat} (h : par ≠ q) :
    sibCount (W.op c).graph q = sibCount (w.op c).graph q := by
  rw [hf.graph]; rw [sibCount_snoc, if_neg h]; rfl

theorem LInv.sib_new (h : LInv w c desc opener kb groups) : sibCount (w.op c).graph (some w.ops.size) = 0 :=
  sibCount_absent h.built h.flat.fresh

/-- **The invariant after a step that adds the new operation to the open layer**: the heap-level fields come with
    `StepFacts`, the opener keeps its place (it is an old node, not the new one), and every entry is covered as
    before; it remains to say how the paths change. -/
theorem LInv.grow (h : LInv w c desc opener kb groups) (hf : StepFacts w c desc d par key W)
    {groups' : List (List Nat)}
    (hmem : ∀ y, y ∈ groups'.flatten ↔ y ∈ groups.flatten ∨ y = w.ops.size)
    (hgroups : GroupsAt (W.op c).graph opener kb 0 groups')
    (hsibO : sibCount (W.op c).graph opener = groups'.length)
    (hsibL : ∀ G ∈ groups', ∀ pre x, G = pre ++ [x] → sibCount (W.op c).graph (some x) = 0) :
    LInv W c (descUpd desc w.ops.size d) opener kb groups' := by
  refine ⟨hf.flat, hf.built, fun b hb => ?_, h.openerNone, hgroups, fun e he => ?_, hsibO, hsibL, hf.descOk,
    hf.links⟩
  · obtain ⟨⟨e, he, hn, hk⟩, hnot⟩ := h.openerOk b hb
    refine ⟨⟨e, hf.mono e he, hn, hk⟩, fun hb' => ?_⟩
    rcases (hmem b).mp hb' with h1 | h1
    · exact hnot h1
    · have := h.node_lt he
      omega
  · rw [hf.graph, List.mem_append, List.mem_singleton] at he
    rcases he with he | rfl
    · exact (h.cover e he).imp_left fun h1 => (hmem _).mpr (Or.inl h1)
    · exact Or.inl ((hmem _).mpr (Or.inr rfl))

theorem LInv.baseKey_opener (h : LInv w c desc opener kb groups) : baseKey (w.op c).graph opener = kb := by
  cases hop : opener with
  | none => rw [h.openerNone hop]; rfl
  | some b =>
    obtain ⟨⟨e, he, hn, hk⟩, _⟩ := h.openerOk b hop
    rw [← hn, baseKey_of_mem h.built.nodup (fun x hx => hx) he, hk]

/-- **a new path**: the operation shares a channel with the opener (if there is one) and with no operation of the
    open layer. -/
theorem step_new (h : LInv w c desc opener kb groups) (hd : d.isComp = false)
    (hop : ∀ b, opener = some b → sharesChannel d (desc b) = true)
    (hno : ∀ x ∈ groups.flatten, sharesChannel d (desc x) = false) :
    LInv (addNew c w d) c (descUpd desc w.ops.size d) opener kb (groups ++ [[w.ops.size]]) := by
  have hpick : pickParent w c d = opener := by
    cases hopn : opener with
    | none =>
      apply pickParent_none
      intro e he
      rw [h.shares d he]
      rcases h.cover e he with h1 | ⟨h1, _⟩
      · exact hno _ h1
      · rw [h.openerNone hopn] at h1
        exact absurd (List.eq_nil_of_length_eq_zero (Nat.le_zero.mp h1)) (h.built.key_ne_nil he)
    | some b =>
      obtain ⟨⟨eb, heb, hn, hk⟩, _⟩ := h.openerOk b hopn
      rw [← hn]
      apply pickParent_of_max h.built heb
      · rw [h.shares d heb, hn]; exact hop b hopn
      · intro e' he' hm
        rw [h.shares d he'] at hm
        rcases h.cover e' he' with h1 | ⟨_, h1⟩
        · rw [hno _ h1] at hm; cases hm
        · rw [hk]; exact h1
  have hpar : ∀ q, opener = some q → inGraph (w.op c).graph q = true := by
    intro q hq
    obtain ⟨⟨e, he, hn, _⟩, _⟩ := h.openerOk q hq
    exact inGraph_iff.mpr ⟨e, he, hn⟩
  have hf := step_common (key := kb ++ [groups.length]) h hd hpick hpar (by rw [h.baseKey_opener, h.sibOpener])
  have hne : ∀ y, y ∈ groups.flatten ∨ y = w.ops.size → opener ≠ some y := by
    intro y hy hoy
    obtain ⟨⟨e, he, hn, _⟩, hnot⟩ := h.openerOk y hoy
    rcases hy with hy | hy
    · exact hnot hy
    · have := h.node_lt he
      omega
  refine h.grow hf (fun y => by simp [List.flatten_append]) ?_ ?_ ?_
  · rw [groupsAt_append]
    exact ⟨h.groupsAt.mono hf.mono, ⟨by simpa using hf.new_mem, trivial⟩, by simp, trivial⟩
  · rw [hf.sib_self, h.sibOpener, List.length_append]; rfl
  · intro G hG pre x hGx
    rw [List.mem_append, List.mem_singleton] at hG
    rcases hG with hG | hG
    · rw [hf.sib_of_ne (hne x (Or.inl (List.mem_flatten.mpr ⟨G, hG, by rw [hGx]; simp⟩)))]
      exact h.sibLast G hG pre x hGx
    · have hx : x = w.ops.size := (snoc_inj (l' := []) (hGx.symm.trans hG)).2
      rw [hx, hf.sib_of_ne (hne _ (Or.inr rfl))]
      exact h.sib_new

theorem layerKey_eq (kb : List Nat) (i j : Nat) : kb ++ [i] ++ List.replicate j 0 = layerKey kb i j := by
  simp [layerKey]

theorem LInv.path_at (h : LInv w c desc opener kb (A ++ G :: B)) :
    PathAt (w.op c).graph opener (kb ++ [A.length]) G ∧ GroupsAt (w.op c).graph opener kb (A.length + 1) B := by
  have hg := (groupsAt_append.mp h.groupsAt).2
  rw [Nat.zero_add] at hg
  exact ⟨hg.1, hg.2.2⟩

theorem LInv.group_key (h : LInv w c desc opener kb (A ++ G :: B)) {e : Entry}
    (he : e ∈ (w.op c).graph) (hG : e.node ∈ G) : ∃ j, j < G.length ∧ e.key = layerKey kb A.length j := by
  obtain ⟨p, j, hj, hmem⟩ := h.path_at.1.entry_of_mem hG
  refine ⟨j, hj, ?_⟩
  rw [node_unique h.built.nodup he hmem rfl]
  exact layerKey_eq kb A.length j

theorem LInv.any_group_key (h : LInv w c desc opener kb groups) {e : Entry}
    (he : e ∈ (w.op c).graph) (hG : e.node ∈ groups.flatten) :
    ∃ A G B j, groups = A ++ G :: B ∧ j < G.length ∧ e.key = layerKey kb A.length j := by
  rw [List.mem_flatten] at hG
  obtain ⟨G, hGm, hnG⟩ := hG
  obtain ⟨A, B, rfl⟩ := List.append_of_mem hGm
  obtain ⟨j, hj, hk⟩ := h.group_key he hnG
  exact ⟨A, G, B, j, rfl, hj, hk⟩

theorem LInv.last_entry (h : LInv w c desc opener kb (A ++ (pre ++ [x]) :: B)) :
    ∃ p, (⟨x, p, layerKey kb A.length pre.length⟩ : Entry) ∈ (w.op c).graph := by
  obtain ⟨p, hex⟩ := h.path_at.1.last_entry
  rw [layerKey_eq] at hex
  exact ⟨p, hex⟩

/-- a step that hangs the new operation below the last operation `x` of a path: nothing hangs below `x` yet, so
    the new key is the key of `x` with one more `0`. -/
theorem LInv.step_below (h : LInv w c desc opener kb (A ++ (pre ++ [x]) :: B)) (hd : d.isComp = false)
    (hpick : pickParent w c d = some x) :
    StepFacts w c desc d (some x) (layerKey kb A.length (pre.length + 1)) (addNew c w d) := by
  obtain ⟨p, hex⟩ := h.last_entry
  refine step_common h hd hpick (fun q hq => ?_) ?_
  · cases hq
    exact inGraph_iff.mpr ⟨_, hex, rfl⟩
  · rw [baseKey_of_mem h.built.nodup (fun y hy => hy) hex, h.sibLast (pre ++ [x]) (by simp) pre x rfl,
      ← layerKey_succ]

/-- **extending a path**: the operation shares a channel with the LAST operation of one path and with no operation
    of another path of the open layer. -/
theorem step_ext (h : LInv w c desc opener kb (A ++ (pre ++ [x]) :: B)) (hd : d.isComp = false)
    (hx : sharesChannel d (desc x) = true)
    (hno : ∀ y ∈ (A ++ B).flatten, sharesChannel d (desc y) = false) :
    LInv (addNew c w d) c (descUpd desc w.ops.size d) opener kb (A ++ (pre ++ [x] ++ [w.ops.size]) :: B) := by
  obtain ⟨hpathG, hgroupsB⟩ := h.path_at
  obtain ⟨p, hex⟩ := h.last_entry
  -- the parent `add` picks is `x`: it carries the greatest key among the operations that share a channel
  have hpick : pickParent w c d = some x := by
    apply pickParent_of_max h.built hex
    · rw [h.shares d hex]; exact hx
    · intro e' he' hm
      rw [h.shares d he'] at hm
      rcases h.cover e' he' with h1 | ⟨h1, _⟩
      · rcases mem_flatten_middle.mp h1 with h2 | h2
        · obtain ⟨j, hj, hk⟩ := h.group_key he' h2
          rw [hk]
          apply keyLe_layerKey
          simp only [List.length_append, List.length_cons, List.length_nil] at hj
          omega
        · rw [hno _ h2] at hm; cases hm
      · apply keyLe_of_shorter
        show e'.key.length < (layerKey kb A.length pre.length).length
        rw [layerKey_length]; omega
  have hf := h.step_below hd hpick
  have hxlt : x < w.ops.size := h.node_lt hex
  -- the last operations of the other paths are not `x`
  have hother : ∀ G, G ∈ A ∨ G ∈ B → ∀ pre' x', G = pre' ++ [x'] →
      sibCount ((addNew c w d).op c).graph (some x') = 0 := by
    intro G hG pre' x' hGx
    have hx' : x' ∈ (A ++ B).flatten :=
      List.mem_flatten.mpr ⟨G, List.mem_append.mpr hG, by rw [hGx]; simp⟩
    have hne : some x ≠ some x' := fun hh => by
      cases hh
      rw [hno x hx'] at hx; cases hx
    rw [hf.sib_of_ne hne]
    exact h.sibLast G (by rcases hG with hG | hG <;> simp [hG]) pre' x' hGx
  refine h.grow hf (fun y => ?_) ?_ ?_ ?_
  · rw [mem_flatten_middle, mem_flatten_middle, List.mem_append, List.mem_singleton]
    exact or_right_comm
  · rw [groupsAt_append]
    refine ⟨(groupsAt_append.mp h.groupsAt).1.mono hf.mono, ?_, by simp, by simpa using hgroupsB.mono hf.mono⟩
    rw [Nat.zero_add, pathAt_snoc, nextParent_snoc, layerKey_eq]
    exact ⟨hpathG.mono hf.mono, by simpa using hf.new_mem⟩
  · have hne : some x ≠ opener := fun hh => by
      obtain ⟨_, hnot⟩ := h.openerOk x hh.symm
      exact hnot (mem_flatten_middle.mpr (Or.inl (by simp)))
    rw [hf.sib_of_ne hne, h.sibOpener]
    simp
  · intro G hG pre' x' hGx
    rw [List.mem_append, List.mem_cons] at hG
    rcases hG with hG | hG | hG
    · exact hother G (Or.inl hG) pre' x' hGx
    · -- the extended path: its last operation is the new one
      rw [(snoc_inj (hGx.symm.trans hG)).2, hf.sib_of_ne (fun hh => by cases hh; omega)]
      exact h.sib_new
    · exact hother G (Or.inr hG) pre' x' hGx

/-- the last operation of a path that is at least as long as every earlier path and longer than every later one
    carries the greatest path key of the whole tree. -/
theorem LInv.key_le_last (h : LInv w c desc opener kb (A ++ (pre ++ [x]) :: B))
    (hA : ∀ G ∈ A, G.length ≤ pre.length + 1) (hB : ∀ G ∈ B, G.length < pre.length + 1) :
    ∀ e' ∈ (w.op c).graph, keyLe e'.key (layerKey kb A.length pre.length) = true := by
  intro e' he'
  rcases h.cover e' he' with h1 | ⟨h1, _⟩
  · obtain ⟨A', G', B', j, hsplit, hj, hk⟩ := h.any_group_key he' h1
    rw [hk]
    apply keyLe_layerKey
    rcases split_cases hsplit with ⟨h2, h3⟩ | ⟨h2, h3, _⟩ | ⟨h2, h3⟩
    · have := hA G' h3
      omega
    · subst h2; subst h3
      simp only [List.length_append, List.length_cons, List.length_nil] at hj
      omega
    · have := hB G' h3
      omega
  · apply keyLe_of_shorter
    rw [layerKey_length]; omega

/-- **closing the layer**: the operation shares a channel with the last operation `x` of a path that is at least as
    long as every earlier path and longer than every later one (so `x` carries the greatest path key of the whole
    tree): it is hung below `x` and becomes the opener of the next layer. -/
theorem step_close (h : LInv w c desc opener kb (A ++ (pre ++ [x]) :: B)) (hd : d.isComp = false)
    (hx : sharesChannel d (desc x) = true)
    (hA : ∀ G ∈ A, G.length ≤ pre.length + 1) (hB : ∀ G ∈ B, G.length < pre.length + 1) :
    LInv (addNew c w d) c (descUpd desc w.ops.size d) (some w.ops.size)
      (layerKey kb A.length (pre.length + 1)) [] ∧
    (⟨w.ops.size, some x, layerKey kb A.length (pre.length + 1)⟩ : Entry) ∈ ((addNew c w d).op c).graph ∧
    ∀ e ∈ (w.op c).graph, e ∈ ((addNew c w d).op c).graph := by
  obtain ⟨p, hex⟩ := h.last_entry
  have hmax := h.key_le_last hA hB
  have hf := h.step_below hd
    (pickParent_of_max h.built hex (by rw [h.shares d hex]; exact hx) (fun e' he' _ => hmax e' he'))
  refine ⟨⟨hf.flat, hf.built, ?_, (by intro hh; cases hh), trivial, ?_, ?_, ?_, hf.descOk, hf.links⟩,
    hf.new_mem, hf.mono⟩
  · intro b hb
    cases hb
    exact ⟨⟨_, hf.new_mem, rfl, rfl⟩, by simp⟩
  · -- every entry has a key at most as great as the new one, which is longer than all old keys
    intro e he
    right
    rw [hf.graph, List.mem_append, List.mem_singleton] at he
    rcases he with he | rfl
    · have h1 := keyLe_length (hmax e he)
      rw [layerKey_length] at h1
      constructor
      · rw [layerKey_length]; omega
      · apply keyLe_of_shorter
        rw [layerKey_length]; omega
    · exact ⟨Nat.le_refl _, keyLe_refl _⟩
  · have hxlt : x < w.ops.size := h.node_lt hex
    rw [hf.sib_of_ne (fun hh => by cases hh; omega)]
    exact h.sib_new
  · intro G hG
    cases hG

/-- what the invariant says about the heap: every operation of the open layer carries a single FOLLOWED_BY link to
    its predecessor on its path (to the opener for the first operation of a path). -/
theorem LInv.directFb (h : LInv w c desc opener kb groups) {e : Entry} (he : e ∈ (w.op c).graph)
    {p : Nat} (hp : e.parent = some p) : DirectFb w p e.node := by
  obtain ⟨_, h2, h3, h4⟩ := h.links e he
  rw [hp] at h4
  exact ⟨h3, Or.inl ⟨h2, by rw [h4]; rfl⟩⟩

end

/-- **the last operation of the greatest path becomes the opener** (no program step: the next operations will be
    hung below it because it carries the greatest path key). -/
theorem promote {w : World} {c : Nat} {desc : Nat → Op} {opener : Option Nat} {kb : List Nat}
    {A B : List (List Nat)} {pre : List Nat} {x : Nat}
    (h : LInv w c desc opener kb (A ++ (pre ++ [x]) :: B))
    (hA : ∀ G ∈ A, G.length ≤ pre.length + 1) (hB : ∀ G ∈ B, G.length < pre.length + 1) :
    LInv w c desc (some x) (layerKey kb A.length pre.length) [] := by
  obtain ⟨p, hex⟩ := h.last_entry
  have hmax := h.key_le_last hA hB
  refine ⟨h.flat, h.built, ?_, (by intro hh; cases hh), trivial, ?_, ?_, ?_, h.descOk, h.links⟩
  · intro b hb
    cases hb
    exact ⟨⟨_, hex, rfl, rfl⟩, by simp⟩
  · intro e he
    exact Or.inr ⟨keyLe_length (hmax e he), hmax e he⟩
  · exact h.sibLast (pre ++ [x]) (by simp) pre x rfl
  · intro G hG
    cases hG

theorem linv_fresh (w : World) (c : Nat) (desc : Nat → Op) (hc : c < w.ops.size) (hg : (w.op c).graph = []) :
    LInv w c desc none [] [] := by
  refine ⟨⟨hc, ?_⟩, ?_, ?_, fun _ => rfl, trivial, ?_, ?_, ?_, ?_, ?_⟩
  · rw [hg]; intro e he; cases he
  · rw [hg]; exact built_nil
  · intro b hb; cases hb
  · rw [hg]; intro e he; cases he
  · rw [hg]; rfl
  · intro G hG; cases hG
  · rw [hg]; intro e he; cases he
  · rw [hg]; intro e he; cases he

end Qco.C10Param
