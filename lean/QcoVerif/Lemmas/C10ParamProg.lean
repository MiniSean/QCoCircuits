import QcoVerif.Lemmas.C10ParamBuild
/-
  C10, parametric layer lemmas: BUILD PROGRAMS.  One program step, as the driver executes `["op", c, …, "-"]`
  (an operation created without relation and added to circuit `c`): a fresh link without reference, a fresh
  operation carrying it, `World.add`.  `addNew_spec`: what the step does to the heap when `c` is a flat block
  (all nodes leaf operations).
-/
namespace Qco.C10Param

open Qco Qco.C10

def addNew (c : Nat) (w : World) (d : Op) : World :=
  ((w.newLink {}).1.newOp { d with link := w.links.size }).1.add c w.ops.size

/-- the node `add` will hang the new operation below: the last node of the listing sharing a channel with it. -/
def pickParent (w : World) (c : Nat) (d : Op) : Option Nat :=
  (listing (w.op c).graph).reverse.find? (fun n => sharesChannel d (w.op n))

def FlatBlock (w : World) (c : Nat) : Prop :=
  c < w.ops.size ∧ ∀ e ∈ (w.op c).graph, e.node < w.ops.size ∧ e.node ≠ c ∧ (w.op e.node).isComp = false

structure AddNewSpec (w : World) (c : Nat) (d : Op) (W : World) : Prop where
  size : W.ops.size = w.ops.size + 1
  lnkOld : ∀ l, l < w.links.size → W.lnk l = w.lnk l
  opOld : ∀ x, x < w.ops.size → x ≠ c → W.op x = w.op x
  gRo : W.gRo = w.gRo
  gMw : W.gMw = w.gMw
  gFl : W.gFl = w.gFl
  gRs : W.gRs = w.gRs
  dreg : W.dreg = w.dreg
  compCls : (W.op c).cls = (w.op c).cls
  graph : (W.op c).graph = attach (w.op c).graph (pickParent w c d) w.ops.size
  newOp : ∃ l, W.op w.ops.size = { d with link := l } ∧ w.links.size ≤ l ∧ l < W.links.size ∧
    (W.lnk l).multi = false ∧ (W.lnk l).rel = .fb ∧ (W.lnk l).refs = (pickParent w c d).toList
  linksGrow : w.links.size ≤ W.links.size

/-- The effect of `add` on a heap `y` that is `w` plus a reference-less link (number `w.links.size`) plus the new
    operation `d` carrying it (number `w.ops.size`): stated about a variable `y`, so that only the equations of
    Lemmas/Heap.lean are used and the arrays are never unfolded. -/
theorem add_fresh_spec {w y : World} {c : Nat} {d : Op} (hc : c < w.ops.size)
    (hsz : y.ops.size = w.ops.size + 1) (hls : y.links.size = w.links.size + 1)
    (hop : ∀ x, x < w.ops.size → y.op x = w.op x) (hopo : y.op w.ops.size = { d with link := w.links.size })
    (hlnk : ∀ l, l < w.links.size → y.lnk l = w.lnk l) (hlnko : y.lnk w.links.size = {})
    (hset : y.gRo = w.gRo ∧ y.gMw = w.gMw ∧ y.gFl = w.gFl ∧ y.gRs = w.gRs ∧ y.dreg = w.dreg)
    (hleaf : y.leafAtAny (y.op c).graph (y.chansOf w.ops.size) = pickParent w c d) :
    AddNewSpec w c d (y.add c w.ops.size) := by
  have hrel : y.hasRel w.ops.size = false := by
    unfold World.hasRel
    rw [hopo]
    show (!(y.lnk w.links.size).refs.isEmpty) = false
    rw [hlnko]; rfl
  have hoc : w.ops.size ≠ c := Nat.ne_of_gt hc
  have hc2 : c < y.ops.size := hsz ▸ Nat.lt_succ_of_lt hc
  have hl0 : w.links.size < y.links.size := hls ▸ Nat.lt_succ_self _
  obtain ⟨s1, s2, s3, s4, s5⟩ := hset
  cases hp : pickParent w c d with
  | none =>
    -- attached under the root, the link is kept
    rw [add_root_eq _ _ _ hrel (hleaf.trans hp), hop c hc]
    have hself := y.op_setGraph_self (attach (w.op c).graph none w.ops.size) hc2
    refine ⟨(y.ops_size_setGraph _ _).trans hsz, fun l hl => (y.lnk_setGraph _ _ l).trans (hlnk l hl),
      fun x hx hxc => (y.op_setGraph_of_ne _ hxc).trans (hop x hx), s1, s2, s3, s4, s5, ?_, ?_,
      ⟨w.links.size, (y.op_setGraph_of_ne _ hoc).trans hopo, Nat.le_refl _, ?_, ?_⟩, ?_⟩
    · rw [hself]
      show (y.op c).cls = _
      rw [hop c hc]
    · rw [hself, hp]
    · rw [y.links_setGraph]; exact hl0
    · rw [y.lnk_setGraph, hlnko, hp]
      exact ⟨rfl, rfl, rfl⟩
    · rw [y.links_setGraph]; exact Nat.le_of_lt hl0
  | some lf =>
    -- a fresh link to `lf` is made and given to the new operation
    rw [add_relink_eq _ _ _ _ hrel (hleaf.trans hp), hop c hc]
    generalize hy3 : (y.newLink { refs := [lf] }).1.setLink w.ops.size y.links.size = y3
    have hsz3 : y3.ops.size = w.ops.size + 1 := by rw [← hy3, World.ops_size_setLink]; exact hsz
    have hop3 : ∀ x, x ≠ w.ops.size → y3.op x = y.op x := fun x hx => by
      rw [← hy3, World.op_setLink_of_ne _ _ hx, World.op_newLink]
    have hopo3 : y3.op w.ops.size = { d with link := y.links.size } := by
      rw [← hy3, World.op_setLink_self _ _ (show w.ops.size < (y.newLink { refs := [lf] }).1.ops.size by
        rw [World.ops_newLink, hsz]; exact Nat.lt_succ_self _), World.op_newLink, hopo]
    have hlnk3 : ∀ l, y3.lnk l = (y.newLink { refs := [lf] }).1.lnk l := fun l => by rw [← hy3, World.lnk_setLink]
    have hls3 : y3.links.size = y.links.size + 1 := by rw [← hy3, World.links_setLink, World.links_size_newLink]
    have hset3 : y3.gRo = y.gRo ∧ y3.gMw = y.gMw ∧ y3.gFl = y.gFl ∧ y3.gRs = y.gRs ∧ y3.dreg = y.dreg := by
      rw [← hy3]; exact ⟨rfl, rfl, rfl, rfl, rfl⟩
    obtain ⟨t1, t2, t3, t4, t5⟩ := hset3
    have hself := y3.op_setGraph_self (attach (w.op c).graph (some lf) w.ops.size) (hsz3 ▸ Nat.lt_succ_of_lt hc : c < y3.ops.size)
    refine ⟨(y3.ops_size_setGraph _ _).trans hsz3,
      fun l hl => (y3.lnk_setGraph _ _ l).trans ((hlnk3 l).trans ((y.lnk_newLink_of_lt _ (Nat.lt_trans hl hl0)).trans (hlnk l hl))),
      fun x hx hxc => (y3.op_setGraph_of_ne _ hxc).trans ((hop3 x (Nat.ne_of_lt hx)).trans (hop x hx)),
      t1.trans s1, t2.trans s2, t3.trans s3, t4.trans s4, t5.trans s5, ?_, ?_,
      ⟨y.links.size, (y3.op_setGraph_of_ne _ hoc).trans hopo3, Nat.le_of_lt hl0, ?_, ?_⟩, ?_⟩
    · rw [hself]
      show (y3.op c).cls = _
      rw [hop3 c hoc.symm, hop c hc]
    · rw [hself, hp]
    · rw [y3.links_setGraph, hls3]; exact Nat.lt_succ_self _
    · rw [y3.lnk_setGraph, hlnk3, y.lnk_newLink_new, hp]
      exact ⟨rfl, rfl, rfl⟩
    · rw [y3.links_setGraph, hls3]; exact Nat.le_succ_of_le (Nat.le_of_lt hl0)

theorem addNew_spec (w : World) (c : Nat) (d : Op) (hflat : FlatBlock w c) (hd : d.isComp = false) :
    AddNewSpec w c d (addNew c w d) := by
  obtain ⟨hc, hnodes⟩ := hflat
  have hop : ∀ x, x < w.ops.size → ((w.newLink {}).1.newOp { d with link := w.links.size }).1.op x = w.op x :=
    fun x hx => World.op_newOp_of_lt (w.newLink {}).1 _ hx
  have hopo : ((w.newLink {}).1.newOp { d with link := w.links.size }).1.op w.ops.size =
      { d with link := w.links.size } := World.op_newOp_new (w.newLink {}).1 _
  refine add_fresh_spec hc (World.ops_size_newOp _ _) (w.links_size_newLink {}) hop hopo
    (fun l hl => w.lnk_newLink_of_lt {} hl) (w.lnk_newLink_new {}) ⟨rfl, rfl, rfl, rfl, rfl⟩ ?_
  -- the leaf test of `add` is the channel test on the descriptions
  rw [hop c hc, leafAtAny_eq]
  unfold pickParent
  apply Qco.find?_congr'
  intro n hn
  have hn' : n ∈ listing (w.op c).graph := by simpa using hn
  obtain ⟨e, he, rfl⟩ := mem_listing_iff.mp hn'
  obtain ⟨hlt, _, hl⟩ := hnodes e he
  unfold matchesNode
  rw [chansOf_leaf _ _ (by rw [hopo]; exact hd), hopo, chansOf_leaf _ e.node (by rw [hop _ hlt]; exact hl),
    hop _ hlt]
  rfl

open Qco.Commute in
/-- in a graph built by `attach`, `add` hangs the new operation below the matching node whose path key is greatest
    (listing order = order of the keys; keys are pairwise different). -/
theorem pickParent_of_max {w : World} {c : Nat} {d : Op} (hb : Built (w.op c).graph) {e : Entry}
    (he : e ∈ (w.op c).graph) (hm : sharesChannel d (w.op e.node) = true)
    (hmax : ∀ e' ∈ (w.op c).graph, sharesChannel d (w.op e'.node) = true → keyLe e'.key e.key = true) :
    pickParent w c d = some e.node := by
  unfold pickParent listing
  rw [← List.map_reverse, List.find?_map]
  cases hf : (sortedEntries (w.op c).graph).reverse.find? ((fun n => sharesChannel d (w.op n)) ∘ fun e => e.node) with
  | none =>
    rw [List.find?_eq_none] at hf
    have := hf e (by simpa using mem_sortedEntries.mpr he)
    simp [hm] at this
  | some r =>
    simp only [Option.map_some, Option.some.injEq]
    obtain ⟨hp, as, bs, hsplit, hnone⟩ := List.find?_eq_some_iff_append.mp hf
    have hes : sortedEntries (w.op c).graph = bs.reverse ++ r :: as.reverse := by
      have := congrArg List.reverse hsplit
      simpa using this
    have hr : r ∈ (w.op c).graph := mem_sortedEntries.mp (by rw [hes]; simp)
    have hpr : sharesChannel d (w.op r.node) = true := by simpa using hp
    -- `e` is not listed after `r`
    have hmem : e ∈ bs.reverse ++ r :: as.reverse := by rw [← hes]; exact mem_sortedEntries.mpr he
    have hle : entryLe e r = true := by
      rcases List.mem_append.mp hmem with h1 | h1
      · have hs := sortedEntries_pairwise (w.op c).graph
        rw [hes, List.pairwise_append] at hs
        exact hs.2.2 e h1 r (by simp)
      · rcases List.mem_cons.mp h1 with h2 | h2
        · rw [h2]
          have := entryLe_total r r
          simpa using this
        · have : e ∈ as := by simpa using h2
          have := hnone e this
          simp [hm] at this
    have hge : entryLe r e = true := hmax r hr hpr
    have hk : r.key = e.key := keyLe_antisymm hge hle
    rw [built_key_inj hb _ r hr e he rfl hk]

theorem pickParent_none {w : World} {c : Nat} {d : Op}
    (h : ∀ e ∈ (w.op c).graph, sharesChannel d (w.op e.node) = false) : pickParent w c d = none := by
  unfold pickParent
  rw [List.find?_eq_none]
  intro n hn
  have hn' : n ∈ listing (w.op c).graph := by simpa using hn
  obtain ⟨e, he, rfl⟩ := mem_listing_iff.mp hn'
  simp [h e he]

/-- the key of the `j`-th operation of the `i`-th path below an opener with key `kb`. -/
def layerKey (kb : List Nat) (i j : Nat) : List Nat := kb ++ i :: List.replicate j 0

theorem layerKey_length (kb : List Nat) (i j : Nat) : (layerKey kb i j).length = kb.length + 1 + j := by
  simp [layerKey]; omega

theorem layerKey_succ (kb : List Nat) (i j : Nat) : layerKey kb i (j + 1) = layerKey kb i j ++ [0] := by
  simp [layerKey, List.replicate_succ']

theorem keyLe_layerKey (kb : List Nat) (i j i' j' : Nat) (h : j < j' ∨ (j = j' ∧ i ≤ i')) :
    keyLe (layerKey kb i j) (layerKey kb i' j') = true := by
  rcases h with h | ⟨rfl, h⟩
  · apply keyLe_of_shorter
    rw [layerKey_length, layerKey_length]; omega
  · simp only [keyLe, layerKey_length, Nat.lt_irrefl, decide_false, beq_self_eq_true, Bool.true_and, Bool.false_or,
      Bool.not_eq_true']
    unfold layerKey
    rw [lexLt_append_left]
    simp only [lexLt, Bool.or_eq_false_iff, decide_eq_false_iff_not, Bool.and_eq_false_iff]
    refine ⟨by omega, Or.inr (lexLt_irrefl _)⟩

end Qco.C10Param
