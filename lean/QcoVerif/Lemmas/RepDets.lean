import QcoVerif.Lemmas.RepState
/-
  C09: acquisition indices (`lastAcq`, `lastAcqOf`) of the listings, record look-ups, and what the detector and
  observable instructions evaluate to: in the three sub-circuits of `get_circuit_qec_with_detectors`
  (`run_block_raw`, `run_block_cmp`) and in the final part (`run_finalPart`), for a well-formed description.
-/
namespace Qco.RepCode
open Qco.StimSem

theorem lastIdxOf_concat (ms : List Nat) (x q : Nat) :
    lastIdxOf (ms ++ [x]) q = if x == q then some ms.length else lastIdxOf ms q := by
  unfold lastIdxOf
  have hz : (List.range (ms ++ [x]).length).zip (ms ++ [x]) = (List.range ms.length).zip ms ++ [(ms.length, x)] := by
    rw [List.length_append, List.length_singleton, List.range_succ, List.zip_append (by simp)]
    rfl
  rw [hz, List.filter_append]
  by_cases h : (x == q) = true <;> simp [h]

theorem lastIdxOf_last (A B : List Nat) (q : Nat) (hB : q ∉ B) :
    lastIdxOf (A ++ q :: B) q = some A.length := by
  have key : ∀ R : List Nat, q ∉ R → lastIdxOf (A ++ q :: R.reverse) q = some A.length := by
    intro R
    induction R with
    | nil => intro _; simpa using lastIdxOf_concat A q q
    | cons x R ih =>
      intro hR
      rw [List.mem_cons, not_or] at hR
      have hx : (x == q) = false := by simpa using fun e => hR.1 e.symm
      have e : A ++ q :: (x :: R).reverse = (A ++ q :: R.reverse) ++ [x] := by simp
      rw [e, lastIdxOf_concat, hx, ih hR.2]
      rfl
  simpa using key B.reverse (by simpa using hB)

theorem lastIdxOf_append_nodup (A l : List Nat) (hl : l.Nodup) (i : Nat) (hi : i < l.length) :
    lastIdxOf (A ++ l) l[i] = some (A.length + i) := by
  have e : l = l.take i ++ (l[i] :: l.drop (i + 1)) := by
    rw [List.getElem_cons_drop, List.take_append_drop]
  have h2 : (l.take i ++ (l[i] :: l.drop (i + 1))).Nodup := e ▸ hl
  have h3 : l[i] ∉ l.drop (i + 1) := (List.nodup_cons.mp (List.nodup_append.mp h2).2.1).1
  have e2 : A ++ l = (A ++ l.take i) ++ l[i] :: l.drop (i + 1) := by
    rw [List.append_assoc, ← e]
  rw [e2, lastIdxOf_last _ _ _ h3]
  simp
  omega

theorem lastAcqOf_suffix {body : List Ins} {K l : List Nat} (hb : measured body = K ++ l) (hl : l.Nodup)
    {i : Nat} (hi : i < l.length) : lastAcqOf body l[i] = ((K.length + i : Nat) : Int) := by
  rw [lastAcqOf, hb, lastIdxOf_append_nodup K l hl i hi]; rfl

theorem lastAcq_suffix {body : List Ins} {K l : List Nat} (hb : measured body = K ++ l) :
    lastAcq body = ((K.length + l.length : Nat) : Int) - 1 := by
  rw [lastAcq, hb, List.length_append]

/-- entry `i` (chronological) of the most recent chunk of the record -/
theorem lookback_rev_map (l : List Nat) (g : Nat → Nat) (T : List Nat) {i : Nat} (hi : i < l.length) (t : Int)
    (ht : t = (i : Int) - l.length) : lookback ((l.map g).reverse ++ T) t = some (g l[i]) := by
  unfold lookback
  have h1 : t < 0 := by omega
  have h2 : (-t).toNat - 1 = l.length - 1 - i := by omega
  simp only [h1, if_true, h2]
  rw [List.getElem?_append_left (by simp; omega), List.getElem?_reverse (by simp; omega)]
  simp only [List.length_map]
  have h3 : l.length - 1 - (l.length - 1 - i) = i := by omega
  rw [h3, List.getElem?_map, List.getElem?_eq_getElem hi]; rfl

theorem lookback_skip (A T : List Nat) (t : Int) (ht : t + A.length < 0) :
    lookback (A ++ T) t = lookback T (t + A.length) := by
  unfold lookback
  have h1 : t < 0 := by omega
  simp only [h1, ht, if_true]
  rw [List.getElem?_append_right (by omega)]
  congr 1
  omega

theorem sumLookbacks_single {r : List Nat} {t : Int} {a : Nat} (h : lookback r t = some a) :
    sumLookbacks r [t] = some a := by
  simp [sumLookbacks, h]

theorem sumLookbacks_cons {r : List Nat} {t : Int} {ts : List Int} {a b : Nat} (h : lookback r t = some a)
    (hs : sumLookbacks r ts = some b) : sumLookbacks r (t :: ts) = some (a ^^^ b) := by
  simp [sumLookbacks, h, hs]

theorem sumLookbacks_skip (A T : List Nat) (ts : List Int) (h : ∀ t ∈ ts, t + A.length < 0) :
    sumLookbacks (A ++ T) ts = sumLookbacks T (ts.map (· + A.length)) := by
  induction ts with
  | nil => rfl
  | cons t ts ih =>
    simp only [sumLookbacks, List.map_cons, lookback_skip A T t (h t List.mem_cons_self),
      ih (fun x hx => h x (List.mem_cons_of_mem _ hx))]

section
variable {d : Desc} (nD nA : Nat)

theorem cB_length (b : Bool) : (cB d nD nA b).length = d.measAnc.length := by simp [cB]
theorem finB_length (b : Bool) : (finB d nD b).length = d.measData.length := by simp [finB]

theorem lookback_cB (b : Bool) (T : List Nat) {i : Nat} (hi : i < d.measAnc.length) (t : Int)
    (ht : t = (i : Int) - d.measAnc.length) :
    lookback (cB d nD nA b ++ T) t = some (cycleFormB d nD nA b d.measAnc[i]) :=
  lookback_rev_map _ _ T hi t ht

theorem lookback_skip_cB (b : Bool) (T : List Nat) (t : Int) (ht : t + d.measAnc.length < 0) :
    lookback (cB d nD nA b ++ T) t = lookback T (t + d.measAnc.length) := by
  have := lookback_skip (cB d nD nA b) T t (by rw [cB_length]; exact ht)
  rwa [cB_length] at this

theorem lookback_finB (b : Bool) (R : List Nat) {i : Nat} (hi : i < d.measData.length) (t : Int)
    (ht : t = (i : Int) - d.measData.length) :
    lookback (finB d nD b ++ R) t = some (finalFormB d nD b d.measData[i]) :=
  lookback_rev_map _ _ R hi t ht

end

theorem map_zero_reverse (l : List Nat) : (l.map fun _ => 0).reverse = List.replicate l.length 0 := by
  rw [List.map_const', List.reverse_replicate]

section
variable {d : Desc} (hwf : d.wellFormed = true) {nD nA : Nat}
include hwf

theorem run_blockDets {body : List Ins} (hb : measured body = d.measAnc)
    (ref : Option Int) (v : Nat → Nat) (q : List Q) (mrec D : List Nat) (o : Nat)
    (hv : ∀ i (hi : i < d.measAnc.length), sumLookbacks mrec
        (match ref with
         | none => [(i : Int) - d.measAnc.length]
         | some x => [(i : Int) - d.measAnc.length, (i : Int) - d.measAnc.length - x]) = some (v d.measAnc[i])) :
    run (blockDets d body ref) ⟨q, mrec, D, o⟩ = some ⟨q, mrec, (d.ancIdx.map v).reverse ++ D, o⟩ := by
  unfold blockDets
  apply run_DET_layer
  intro a ha
  obtain ⟨i, hi, rfl⟩ := List.mem_iff_getElem.mp ((measAnc_perm hwf).mem_iff.mpr ha)
  have hb' : measured body = [] ++ d.measAnc := hb
  rw [lastAcqOf_suffix hb' (measAnc_nodup hwf) hi, lastAcq_suffix hb']
  have e : ((([] : List Nat).length + i : Nat) : Int) - (((([] : List Nat).length + d.measAnc.length : Nat) : Int) - 1 + 1)
      = (i : Int) - d.measAnc.length := by simp
  have := hv i hi
  cases ref <;> simp only [detTargets, e] at this ⊢ <;> exact this

/-- a sub-circuit of the first two cycles (`R` is its round): the detectors are the raw outcomes -/
theorem run_block_raw {R tl : List Ins} (hm : measured R = d.measAnc) (htl : ∀ s, run tl s = some s)
    {s : St} {S' : List Q} {x : Bool} {T D : List Nat} {o : Nat}
    (hrun : run R s = some ⟨S', cB d nD nA x ++ T, D, o⟩) :
    run (R ++ blockDets d R none ++ tl) s =
      some ⟨S', cB d nD nA x ++ T, (d.ancIdx.map (cycleFormB d nD nA x)).reverse ++ D, o⟩ := by
  rw [List.append_assoc, run_append_some hrun, run_append_some
    (run_blockDets hwf hm none _ _ _ D o fun i hi => sumLookbacks_single (lookback_cB nD nA x T hi _ rfl))]
  exact htl _

/-- a sub-circuit of a later cycle: each detector compares with the outcome two cycles earlier -/
theorem run_block_cmp {R tl : List Ins} (hm : measured R = d.measAnc) (htl : ∀ s, run tl s = some s)
    {s : St} {S' : List Q} {x y : Bool} {T D : List Nat} {o : Nat}
    (hrun : run R s = some ⟨S', cB d nD nA x ++ (cB d nD nA y ++ (cB d nD nA x ++ T)), D, o⟩) :
    run (R ++ blockDets d R (some (twoN d)) ++ tl) s =
      some ⟨S', cB d nD nA x ++ (cB d nD nA y ++ (cB d nD nA x ++ T)),
            List.replicate d.ancIdx.length 0 ++ D, o⟩ := by
  have hlen : twoN d = 2 * (d.measAnc.length : Int) := by rw [twoN, (measAnc_perm hwf).length_eq]
  rw [List.append_assoc, run_append_some hrun, run_append_some
    (run_blockDets hwf hm (some (twoN d)) (fun _ => 0) _ _ D o fun i hi => by
      have h := sumLookbacks_cons (lookback_cB nD nA x (cB d nD nA y ++ (cB d nD nA x ++ T)) hi _ rfl)
        (sumLookbacks_single (t := (i : Int) - d.measAnc.length - twoN d) (a := cycleFormB d nD nA x d.measAnc[i]) (by
          rw [lookback_skip_cB nD nA _ _ _ (by omega), lookback_skip_cB nD nA _ _ _ (by omega)]
          exact lookback_cB nD nA x T hi _ (by omega)))
      rwa [Nat.xor_self] at h)]
  rw [map_zero_reverse]
  exact htl _

end

theorem idxOf?_getElem {l : List Nat} (hl : l.Nodup) {i : Nat} (hi : i < l.length) : l.idxOf? l[i] = some i :=
  List.idxOf?_eq_some_iff.mpr
    ⟨hi, rfl, fun j hj e => List.pairwise_iff_getElem.mp hl j i (by omega) hi hj e⟩

theorem detTargets_final (last m s r o : Int) (pos more : Bool) :
    detTargets last (some m) (some s) (if pos then some r else none) (if more then some o else none) =
      (m - (last + 1)) :: (s - (last + 1)) :: (if pos then (-r) :: (if more then [-r - o] else []) else []) := by
  cases pos <;> cases more <;> rfl

section
variable {d : Desc} (hwf : d.wellFormed = true) (nD nA : Nat)
include hwf

theorem run_fin_M (b ba : Bool) (R D : List Nat) (o : Nat) :
    run (d.measData.map .M) ⟨mk d.size (SB d nD nA b ba), R, D, o⟩ =
      some ⟨mk d.size (SB d nD nA b ba), finB d nD b ++ R, D, o⟩ := by
  have hmem : ∀ q, q ∈ d.measData → q ∈ d.dataIdx := fun q => (measData_perm hwf).mem_iff.mp
  exact run_M_layer _ _ _ (finalFormB d nD b)
    (fun q hq => ⟨data_lt_size (hmem q hq), SB_data nD nA b ba (hmem q hq)⟩) R D o

theorem parityForm_getElem (n : Nat) {j : Nat} (hj : j < d.ancIdx.length) (hj' : j < d.nbr.length) :
    parityForm d n d.ancIdx[j] = xVar d n d.nbr[j].1 ^^^ xVar d n d.nbr[j].2 := by
  simp only [parityForm, nbrOf, idxOf?_getElem (ancIdx_nodup hwf) hj, List.getD_eq_getElem?_getD,
    List.getElem?_eq_getElem hj', Option.getD_some]

theorem final_pair (b : Bool) {j : Nat} (hj : j < d.ancIdx.length) (hj' : j < d.nbr.length) :
    finalFormB d nD b d.nbr[j].1 ^^^ finalFormB d nD b d.nbr[j].2 = parityForm d nD d.ancIdx[j] := by
  rw [parityForm_getElem hwf nD hj hj']
  exact xor_cancel_mid _ _ _

/-- The final part, run after 0, 1 or 2 cycles whose outcomes (`w`, summed per ancilla) the final detectors
    refer to: each detector is the parity of its two data neighbours plus `w`. -/
theorem run_finalPart (pos more : Bool) (L Q : List Ins) {K : List Nat} (hQ : measured Q = K ++ d.measAnc)
    (w : Nat → Nat) (b ba : Bool) (R D : List Nat)
    (hw : ∀ k (hk : k < d.measAnc.length), sumLookbacks R
      (if pos then ((k : Int) - d.measAnc.length) :: (if more then [(k : Int) - d.measAnc.length - d.measAnc.length] else [])
       else []) = some (w d.measAnc[k])) :
    run (finalPart d pos more L Q) ⟨mk d.size (SB d nD nA b ba), R, D, 0⟩ =
      some ⟨mk d.size (SB d nD nA b ba), finB d nD b ++ R,
            (d.ancIdx.map fun a => parityForm d nD a ^^^ w a).reverse ++ D, expectedObservableB d nD b⟩ := by
  have hD := (measData_perm hwf).length_eq
  have hA := (measAnc_perm hwf).length_eq
  have hfull : measured (L ++ d.measData.map .M) = measured L ++ d.measData := by
    rw [measured_append, measured_M]
  -- the target of a data qubit in the final measurement
  have hdata : ∀ q ∈ d.dataIdx, lookback (finB d nD b ++ R)
      (lastAcqOf (L ++ d.measData.map .M) q - (lastAcq (L ++ d.measData.map .M) + 1)) = some (finalFormB d nD b q) := by
    intro q hq
    obtain ⟨i, hi, rfl⟩ := List.mem_iff_getElem.mp ((measData_perm hwf).mem_iff.mpr hq)
    rw [lastAcqOf_suffix hfull (measData_nodup hwf) hi, lastAcq_suffix hfull]
    exact lookback_finB nD b R hi _ (by push_cast; omega)
  unfold finalPart
  simp only []
  rw [List.append_assoc, run_append_some (run_fin_M hwf nD nA b ba R D 0)]
  have hdet := run_DET_layer (d.ancIdx.zip d.nbr) (fun p => Int.ofNat p.1) (fun _ => 0)
    (fun p => detTargets (lastAcq (L ++ d.measData.map .M)) (some (lastAcqOf (L ++ d.measData.map .M) p.2.1))
        (some (lastAcqOf (L ++ d.measData.map .M) p.2.2))
        (if pos then some ((lastAcq Q + 1) - lastAcqOf Q p.1 + d.dataIdx.length) else none)
        (if more then some (d.ancIdx.length : Int) else none))
    (fun p => parityForm d nD p.1 ^^^ w p.1) (mk d.size (SB d nD nA b ba)) (finB d nD b ++ R) D 0
    (fun p hp => by
      obtain ⟨j, hj, rfl⟩ := List.mem_iff_getElem.mp hp
      have hj1 : j < d.ancIdx.length := by rw [List.length_zip] at hj; omega
      have hj2 : j < d.nbr.length := by rw [List.length_zip] at hj; omega
      obtain ⟨k, hk, hka⟩ := List.mem_iff_getElem.mp ((measAnc_perm hwf).mem_iff.mpr (List.getElem_mem hj1))
      have hnb := nbr_data hwf (List.getElem_mem hj2)
      simp only [List.getElem_zip]
      rw [detTargets_final, ← final_pair hwf nD b hj1 hj2, Nat.xor_assoc, ← hka]
      refine sumLookbacks_cons (hdata _ hnb.1) (sumLookbacks_cons (hdata _ hnb.2) ?_)
      rw [lastAcqOf_suffix hQ (measAnc_nodup hwf) hk, lastAcq_suffix hQ, sumLookbacks_skip, ← hw k hk]
      · congr 1
        cases pos <;> cases more <;> simp [finB_length] <;> omega
      · cases pos <;> cases more <;> simp [finB_length] <;> omega)
  refine Eq.trans (run_append_some hdet) ?_
  refine Eq.trans (run_OBS_layer d.dataIdx _ (finalFormB d nD b) _ _ _ _
    fun q hq => sumLookbacks_single (hdata q hq)) ?_
  have hzip : ((d.ancIdx.zip d.nbr).map fun p => parityForm d nD p.1 ^^^ w p.1) =
      d.ancIdx.map fun a => parityForm d nD a ^^^ w a :=
    (List.map_map (f := Prod.fst) (g := fun a => parityForm d nD a ^^^ w a)).symm.trans
      (congrArg _ (List.map_fst_zip (Nat.le_of_eq (nbr_length hwf).symm)))
  rw [hzip]
  rfl

end

end Qco.RepCode
