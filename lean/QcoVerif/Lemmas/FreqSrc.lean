import QcoVerif.Model.Connectivity
import QcoVerif.Lemmas.PyBridge
/-
  C16 — source ties of the frequency ordering (`FrequencyGroupIdentifier.is_equal_to / is_higher_than / is_lower_than`,
  connectivity/intrf_connectivity_surface_code.py) and of `on_moving_side`, `get_higher_frequency_qubit_id`,
  `get_lower_frequency_qubit_id` (connectivity/connectivity_surface_code.py).
  The method calls the source makes on `self` are answered by RUNNING the translated source of the callee (no model function in
  between); the edge methods `contains / get_connected_qubit_id` are answered by the model's `Edge.has / Edge.other` (`contains` is
  tied to its source in C19, `edge_contains_matches_source`, for the model `EdgeId` of Model/Ident.lean; `get_connected_qubit_id`
  is translated and has no tie).  Core Lean only.
-/
namespace Qco.FreqSrc
open Qco Qco.Py Qco.Gen.PySrc Qco.Conn

def freqName : Freq → String
  | .low => "LOW" | .mid => "MID" | .high => "HIGH"

/-- a `FrequencyGroupIdentifier`; `id` is the property over `_id`. -/
def freqObj (f : Freq) : Val := .obj "FrequencyGroupIdentifier" 0 [("id", .enum "FrequencyGroup" (freqName f))]

theorem freqName_beq (a b : Freq) : (freqName a == freqName b) = (a == b) := by
  cases a <;> cases b <;> decide

theorem is_equal_to_matches_source (a b : Freq) :
    callFn {} Freq_is_equal_to [freqObj a, freqObj b] = .bool (a == b) := by
  py_simp [Freq_is_equal_to, freqObj, freqName_beq]

def env1 : Env :=
  { method := fun recv m args => match m with
      | "is_equal_to" => some (callFn {} Freq_is_equal_to (recv :: args))
      | _ => Option.none }

theorem is_higher_than_matches_source (a b : Freq) :
    callFn env1 Freq_is_higher_than [freqObj a, freqObj b] = .bool (a.isHigher b) := by
  cases a <;> cases b <;> rfl

def env2 : Env :=
  { method := fun recv m args => match m with
      | "is_equal_to" => some (callFn {} Freq_is_equal_to (recv :: args))
      | "is_higher_than" => some (callFn env1 Freq_is_higher_than (recv :: args))
      | _ => Option.none }

theorem is_lower_than_matches_source (a b : Freq) :
    callFn env2 Freq_is_lower_than [freqObj a, freqObj b] = .bool (a.isLower b) := by
  cases a <;> cases b <;> rfl

def edgeVal (e : Edge) : Val := .obj "EdgeIDObj" 0 [("qubit_ids", .list [.int e.1, .int e.2])]

def decodeEdge : Val → Option Edge
  | .obj _ _ [(_, .list [.int a, .int b])] => some (a.toNat, b.toNat)
  | _ => Option.none

def higherSrc (recv o : Val) : Val := callFn env1 Freq_is_higher_than [recv, o]

theorem higherSrc_eq (a b : Freq) : higherSrc (freqObj a) (freqObj b) = .bool (a.isHigher b) :=
  is_higher_than_matches_source a b

/-- the connectivity layer answers `get_frequency_group_identifier(q)` with the table `freqOf`; an edge answers `contains` and
    `get_connected_qubit_id` as the model's `Edge.has / Edge.other`; a frequency identifier runs the source of `is_higher_than`.
    (Written as an `if` chain on the method name: a `match` on string literals makes `simp` decide string equality by `whnf`.) -/
def connEnv : Env :=
  { method := fun recv m args =>
      if m == "contains" then
        (match args with | [.int q] => (decodeEdge recv).map (fun e => Val.bool (e.has q.toNat)) | _ => Option.none)
      else if m == "get_connected_qubit_id" then
        (match args with | [.int q] => (decodeEdge recv).map (fun e => Val.int (e.other q.toNat)) | _ => Option.none)
      else if m == "get_frequency_group_identifier" then
        (match args with | [.int q] => some (freqObj (freqOf q.toNat)) | _ => Option.none)
      else if m == "is_higher_than" then (match args with | [o] => some (higherSrc recv o) | _ => Option.none)
      else Option.none }

@[py_eval] theorem decode_edgeVal (e : Edge) : decodeEdge (edgeVal e) = some e := by
  obtain ⟨a, b⟩ := e
  simp [decodeEdge, edgeVal]

@[py_eval] theorem builtin_on_moving_side (args : List Val) : builtin "on_moving_side" args = none :=
  builtin_none _ _ (by simp [builtinNames])

@[py_eval] theorem freqObj_isErr (f : Freq) : (freqObj f).isErr = false := rfl
@[py_eval] theorem edgeVal_isErr (e : Edge) : (edgeVal e).isErr = false := rfl

theorem on_moving_side_matches_source (q : Qubit) (e : Edge) (conn : Val) :
    callFn connEnv Conn_on_moving_side [.int q, edgeVal e, conn] = .bool (onMovingSide q e) := by
  py_simp [Conn_on_moving_side, connEnv, higherSrc_eq, onMovingSide]

def movingSrc (args : List Val) : Val := callFn connEnv Conn_on_moving_side args

theorem movingSrc_eq (q : Nat) (e : Edge) (conn : Val) :
    movingSrc [.int q, edgeVal e, conn] = .bool (onMovingSide q e) :=
  on_moving_side_matches_source q e conn

def connEnv2 : Env :=
  { connEnv with
    func := fun f args => if f == "on_moving_side" then some (movingSrc args) else Option.none }

@[py_eval] theorem edgeVal_qubit_ids (env : Env) (e : Edge) : getAttr env (edgeVal e) "qubit_ids" = .list [.int e.1, .int e.2] := rfl

theorem get_higher_matches_source (e : Edge) (conn : Val) :
    callFn connEnv2 Conn_get_higher_frequency_qubit_id [edgeVal e, conn] =
      .int (if onMovingSide e.1 e then e.1 else e.other e.1) := by
  py_simp [Conn_get_higher_frequency_qubit_id, connEnv2, connEnv, movingSrc_eq]

theorem get_lower_matches_source (e : Edge) (conn : Val) :
    callFn connEnv2 Conn_get_lower_frequency_qubit_id [edgeVal e, conn] =
      .int (if !onMovingSide e.1 e then e.1 else e.other e.1) := by
  py_simp [Conn_get_lower_frequency_qubit_id, connEnv2, connEnv, movingSrc_eq]

end Qco.FreqSrc
