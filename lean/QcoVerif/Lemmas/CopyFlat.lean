import QcoVerif.Lemmas.CopyNested
/-
  Graph-level copy theorem for `World.copy`, flat blocks: the copy's relation tree is the image of the original's under the
  position-wise node map `copyMap`, every internal relation re-pointed to the corresponding copy.  A flat block is the case
  "every node is a leaf" of the copy loop of Lemmas/CopyNested.lean: its content is its listing, the lookup starts empty
  (so no outside reference is ever answered and every node keeps the relation type), and the block's own link may be of
  any kind.  Core Lean only.
-/
namespace Qco

/-- link map of the loop: the copy of the `i`-th listed node owns link `K + i`. -/
def cpLink (K : Nat) (S : List Entry) (n : Nat) : Nat := K + (S.map (·.node)).idxOf n

/-- hypotheses of the flat copy theorem, relative to the sorted entry list `S` of the block (see `FlatOk`). -/
structure FlatHyp (w : World) (S : List Entry) : Prop where
  built : Built S
  leaf : ∀ e ∈ S, e.node < w.ops.size ∧ (w.op e.node).isComp = false
  keyInj : ∀ a ∈ S, ∀ b ∈ S, w.eqKey a.node = w.eqKey b.node → a.node = b.node
  linkLt : ∀ e ∈ S, (w.op e.node).link < w.links.size
  single : ∀ e ∈ S, (w.lnk (w.op e.node).link).multi = false
  child : ∀ e ∈ S, ∀ p, e.parent = some p → (w.lnk (w.op e.node).link).refs.head? = some p
  root : ∀ e ∈ S, e.parent = none → ∀ r, (w.lnk (w.op e.node).link).refs.head? = some r →
    r < w.ops.size ∧ ∀ m ∈ S, w.eqKey m.node ≠ w.eqKey r
  apart : ∀ A e B, S = A ++ e :: B → e.parent = none →
    ∀ x ∈ A, chMatch (w.chansOf e.node) (w.chansOf x.node) = false

/-- **Hypotheses of the flat graph-level copy theorem** for the composite `o` in heap `w`
    (H1 = `keyInj`, H2 = `single`, H3 = `child`/`root`/`apart`, H4 = `built`/`leaf`/`linkLt`). -/
structure FlatOk (w : World) (o : Nat) : Prop where
  comp : (w.op o).isComp = true
  /-- H4: the relation tree was built by `attach` (canonical path keys, nodes pairwise distinct, parents present) -/
  built : Built (w.op o).graph
  /-- flat block: every node is an existing leaf operation -/
  leaf : ∀ n ∈ listing (w.op o).graph, n < w.ops.size ∧ (w.op n).isComp = false
  /-- H1: the nodes are pairwise distinct as keys of the transfer lookup -/
  keyInj : ∀ a ∈ listing (w.op o).graph, ∀ b ∈ listing (w.op o).graph, w.eqKey a = w.eqKey b → a = b
  /-- H4: link identifiers are allocated -/
  linkLt : ∀ n ∈ listing (w.op o).graph, (w.op n).link < w.links.size
  /-- H2: no node carries a group link -/
  single : ∀ n ∈ listing (w.op o).graph, (w.lnk (w.op n).link).multi = false
  /-- H3: a node hangs under the operation its relation refers to -/
  child : ∀ e ∈ (w.op o).graph, ∀ p, e.parent = some p → (w.lnk (w.op e.node).link).refs.head? = some p
  /-- H3: the relation of a depth-1 node has no reference, or refers to an existing object outside the block that no
      node of the block equals as a lookup key -/
  root : ∀ e ∈ (w.op o).graph, e.parent = none → ∀ r, (w.lnk (w.op e.node).link).refs.head? = some r →
    r < w.ops.size ∧ ∀ m ∈ listing (w.op o).graph, w.eqKey m ≠ w.eqKey r
  /-- H3 (`RootsApart`): a depth-1 node shares no channel with an earlier depth-1 node (this is why `add` put it
      under the root) -/
  apart : (heads (w.op o).graph).Pairwise (fun x y => chMatch (w.chansOf y) (w.chansOf x) = false)

theorem node_mem_listing {g : List Entry} {e : Entry} (h : e ∈ sortedEntries g) : e.node ∈ listing g :=
  List.mem_map.mpr ⟨e, h, rfl⟩

theorem FlatOk.toHyp {w : World} {o : Nat} (H : FlatOk w o) : FlatHyp w (sortedEntries (w.op o).graph) := by
  refine ⟨built_sortedEntries H.built, ?_, ?_, ?_, ?_, ?_, ?_, ?_⟩
  · intro e he; exact H.leaf _ (node_mem_listing he)
  · intro a ha b hb' h; exact H.keyInj _ (node_mem_listing ha) _ (node_mem_listing hb') h
  · intro e he; exact H.linkLt _ (node_mem_listing he)
  · intro e he; exact H.single _ (node_mem_listing he)
  · intro e he; exact H.child e (mem_sortedEntries.mp he)
  · intro e he hp r hr
    obtain ⟨h1, h2⟩ := H.root e (mem_sortedEntries.mp he) hp r hr
    exact ⟨h1, fun m hm => h2 _ (node_mem_listing hm)⟩
  · intro A e B hs hp; exact apart_split H.built H.apart hs hp

/-- a flat block satisfies the hypotheses of the copy loop at every fuel: its nodes are trees of depth 1 and its content is
    its listing. -/
theorem FlatHyp.toNHyp {w : World} {S : List Entry} (H : FlatHyp w S) (f : Nat) (hf : f + 1 ≤ w.depthFuel) :
    NHyp w (f + 1) S := by
  refine ⟨H.built, ?_, H.child, H.root, H.apart, ?_, hf⟩
  · intro e he
    exact treeOk_leaf w f e.node (H.leaf e he).1 (H.linkLt e he) (H.single e he) (H.leaf e he).2
  · rw [preorder_flat w f (fun e he => (H.leaf e he).2)]
    apply nodup_map_of_injOn H.built.nodup
    intro a ha b hb h
    obtain ⟨ea, hea, rfl⟩ := List.mem_map.mp ha
    obtain ⟨eb, heb, rfl⟩ := List.mem_map.mp hb
    exact H.keyInj ea hea eb heb h

/-- the node map of `w.copy o`: the `i`-th node of the listing goes to the fresh object `w.ops.size + 1 + i`
    (`w.ops.size` itself is the new composite). -/
def copyMap (w : World) (o : Nat) (n : Nat) : Nat := w.ops.size + 1 + (listing (w.op o).graph).idxOf n

/-- the link owned by the copy of the `i`-th node: the fresh link `w.links.size + 1 + i`. -/
def copyLinkMap (w : World) (o : Nat) (n : Nat) : Nat := w.links.size + 1 + (listing (w.op o).graph).idxOf n

theorem copyMap_eq (w : World) (o : Nat) : copyMap w o = cpNode w.ops.size (listing (w.op o).graph) := rfl
theorem copyLinkMap_eq (w : World) (o : Nat) :
    copyLinkMap w o = cpLink (w.links.size + 1) (sortedEntries (w.op o).graph) := rfl

theorem copyMap_inj (w : World) (o : Nat) {a b : Nat} (ha : a ∈ listing (w.op o).graph)
    (hb : b ∈ listing (w.op o).graph) (h : copyMap w o a = copyMap w o b) : a = b :=
  cpNode_inj ha hb h

/-- what the flat copy theorem says about `(w', o') = w.copy o`, with `φ = copyMap w o`. -/
structure FlatCopy (w : World) (o : Nat) (w' : World) (o' : Nat) : Prop where
  fresh : o' = w.ops.size
  ext : Ext w w'
  cls : (w'.op o').cls = .comp
  rep : (w'.op o').rep = (w.op o).rep
  /-- the copy's entries, in listing order, are the images of the original's: same keys, parents mapped -/
  graph : (w'.op o').graph = (sortedEntries (w.op o).graph).map (Entry.image (copyMap w o))
  /-- each copied operation: a fresh object, class-faithful fields, a single link with the relation type of the
      original, re-pointed to the copy of the parent -/
  node : ∀ e ∈ (w.op o).graph, NodeCopy w w' (w.ops.size + 1) w.ops.size (copyMap w o) True e
  /-- every copied operation owns its link -/
  links : LinkDistinct w.ops.size w'

theorem copy_flat_copy (w : World) (o : Nat) (H : FlatOk w o) : FlatCopy w o (w.copy o).1 (w.copy o).2 := by
  have hS := H.toHyp
  have hleaf : ∀ e ∈ sortedEntries (w.op o).graph, (w.op e.node).isComp = false := fun e he => (hS.leaf e he).2
  have I := copyBody_inv (copyObj_spec w (w.ops.size + 1)) (hS.toNHyp w.ops.size (Nat.le_succ _)) (Ext.refl w)
    ⟨fun j h1 h2 => by omega, fun i j h1 h2 h3 => by omega⟩ (lk := []) (fun key v h => by cases h)
    (w.op o).link (w.op o).rep
  obtain ⟨hEc, hops, hsnd, _⟩ := Ext.copyLink w (w.op o).link []
  rw [copy_eq, show w.depthFuel = w.ops.size + 1 + 1 from rfl, copyObj_comp' w (w.ops.size + 1) o [] H.comp, hsnd, hops]
  rw [preorder_flat w w.ops.size hleaf,
    show (sortedEntries (w.op o).graph).map (·.node) = listing (w.op o).graph from rfl] at I
  generalize (listing (w.op o).graph).foldl (cpStep (w.ops.size + 1) w.ops.size)
    (((w.copyLink (w.op o).link []).1.newOp { cls := .comp, link := w.links.size, rep := (w.op o).rep }).1, []) = res
    at I ⊢
  show FlatCopy w o res.1 w.ops.size
  refine ⟨rfl, hEc.trans I.ext, by rw [I.resop], by rw [I.resop], by rw [I.resop]; rfl, ?_, I.links⟩
  intro e he
  have c := I.cp e (mem_sortedEntries.mpr he)
  refine ⟨c.above, c.lt, c.linkLt, c.single, c.refs, fun _ => c.rel ?_, c.copy⟩
  -- the lookup starts empty and knows the copies of the nodes of the block only: no outside reference is answered
  intro hp r hr
  refine ⟨rfl, ?_⟩
  rw [preorder_flat w w.ops.size hleaf]
  intro x hx
  obtain ⟨m, hm, rfl⟩ := List.mem_map.mp hx
  exact (hS.root e (mem_sortedEntries.mpr he) hp r hr).2 m hm

theorem FlatCopy.listing_eq {w : World} {o : Nat} {w' : World} {o' : Nat} (C : FlatCopy w o w' o') :
    listing (w'.op o').graph = (listing (w.op o).graph).map (copyMap w o) := by
  rw [C.graph]; exact listing_image _ _

theorem FlatCopy.node_op {w : World} {o : Nat} {w' : World} {o' : Nat} (H : FlatOk w o) (C : FlatCopy w o w' o')
    {e : Entry} (he : e ∈ (w.op o).graph) :
    ∃ l rg, w'.op (copyMap w o e.node) = { (w.op e.node).copyFields with link := l, reg := rg } :=
  (copyOf_leaf_iff (H.leaf _ (mem_listing_iff.mpr ⟨e, he, rfl⟩)).2).mp (C.node e he).copy

/-- **the copy of a well-linked flat block is a well-linked flat block** — the theorem can be iterated. -/
theorem FlatCopy.flatOk {w : World} {o : Nat} {w' : World} {o' : Nat} (H : FlatOk w o) (C : FlatCopy w o w' o') :
    FlatOk w' o' := by
  have hnode : ∀ n' ∈ listing (w'.op o').graph, ∃ e ∈ (w.op o).graph, n' = copyMap w o e.node := by
    intro n' hn'
    rw [C.listing_eq] at hn'
    obtain ⟨n, hn, hnn⟩ := List.mem_map.mp hn'
    obtain ⟨e, he, hen⟩ := mem_listing_iff.mp hn
    exact ⟨e, he, by rw [hen, hnn]⟩
  have hmem : ∀ e ∈ (w.op o).graph, e.node ∈ listing (w.op o).graph :=
    fun e he => mem_listing_iff.mpr ⟨e, he, rfl⟩
  have hent : ∀ e' ∈ (w'.op o').graph, ∃ e ∈ (w.op o).graph, e' = e.image (copyMap w o) := by
    intro e' he'
    rw [C.graph] at he'
    obtain ⟨e, he, hee⟩ := List.mem_map.mp he'
    exact ⟨e, mem_sortedEntries.mp he, hee.symm⟩
  have hfuel : w.ops.size + 1 ≤ w.depthFuel := Nat.le_succ _
  refine ⟨?_, ?_, ?_, ?_, ?_, ?_, ?_, ?_, ?_⟩
  · unfold Op.isComp; rw [C.cls]; rfl
  · rw [C.graph]
    exact built_image (built_sortedEntries H.built) _
      (fun a ha b hb h => copyMap_inj w o (node_mem_listing ha) (node_mem_listing hb) h)
  · intro n' hn'
    obtain ⟨e, he, rfl⟩ := hnode n' hn'
    exact ⟨(C.node e he).lt, (C.node e he).copy.isComp.trans (H.leaf _ (hmem e he)).2⟩
  · intro a' ha' b' hb' h
    obtain ⟨a, ha, rfl⟩ := hnode a' ha'
    obtain ⟨b, hb2, rfl⟩ := hnode b' hb'
    exact C.links.eqKey_inj (Nat.le_of_lt (C.node a ha).above) (Nat.le_of_lt (C.node b hb2).above) (C.node a ha).lt
      (C.node b hb2).lt h
  · intro n' hn'
    obtain ⟨e, he, rfl⟩ := hnode n' hn'
    exact (C.node e he).linkLt
  · intro n' hn'
    obtain ⟨e, he, rfl⟩ := hnode n' hn'
    exact (C.node e he).single
  · intro e' he' p' hp'
    obtain ⟨e, he, rfl⟩ := hent e' he'
    simp only [Entry.image_node, Entry.image_parent] at hp' ⊢
    rw [(C.node e he).refs, hp']
    rfl
  · intro e' he' hp' r hr
    obtain ⟨e, he, rfl⟩ := hent e' he'
    simp only [Entry.image_node, Entry.image_parent] at hp' hr
    rw [(C.node e he).refs, hp'] at hr
    cases hr
  · rw [C.graph, heads_image, List.pairwise_map]
    have hch : ∀ x ∈ heads (w.op o).graph, w'.chansOf (copyMap w o x) = w.chansOf x := by
      intro x hx
      unfold heads at hx
      obtain ⟨e, he, rfl⟩ := List.mem_map.mp hx
      exact chansOf_copyOf (C.node e (mem_sortedEntries.mp (List.mem_filter.mp he).1)).copy hfuel C.ext.opsz
    have hp := H.apart
    rw [List.pairwise_iff_forall_sublist] at hp ⊢
    intro a b hab
    rw [hch a (hab.subset (by simp)), hch b (hab.subset (by simp))]
    exact hp hab

/-- the references of the copied link in terms of the ORIGINAL link: the head reference re-pointed to its copy when it is a
    node of the block, dropped otherwise. -/
def headRefImage (w : World) (o n : Nat) : List Nat :=
  match (w.lnk (w.op n).link).refs.head? with
  | none => []
  | some r => if r ∈ listing (w.op o).graph then [copyMap w o r] else []

theorem FlatOk.parent_refs {w : World} {o : Nat} (H : FlatOk w o) {e : Entry} (he : e ∈ (w.op o).graph) :
    (e.parent.map (copyMap w o)).toList = headRefImage w o e.node := by
  unfold headRefImage
  cases hp : e.parent with
  | some p =>
    rw [H.child e he p hp]
    obtain ⟨pe, hpe, hpq, _⟩ := H.built.parent_mem he hp
    have : p ∈ listing (w.op o).graph := mem_listing_iff.mpr ⟨pe, hpe, hpq⟩
    simp [this]
  | none =>
    cases hh : (w.lnk (w.op e.node).link).refs.head? with
    | none => rfl
    | some r =>
      have hr := (H.root e he hp r hh).2
      have : r ∉ listing (w.op o).graph := fun hmem => hr r hmem rfl
      simp [this]

end Qco
