import QcoVerif.Lemmas.CommuteSub
import QcoVerif.Lemmas.CopyGraphExample
/-
  Examples for the commutation theorems.  Non-vacuity of `AddOk` (`Commute.listing_then_add`): a circuit `top` holding a
  sub-circuit `sub` holding one rotation with its own (reference-less) link, and a fresh rotation on the same qubit, or a
  separate one-operation circuit added as a whole; the latter also satisfies `SubOk` (`Commute.listing_then_addSub`).
  All built by the model's own `newCircuit / newLink / newOp / add` and evaluated step by step (the merge-sort based
  `listing` does not reduce in the kernel).  Then two witnesses: a cyclic heap on which a second listing still writes,
  and the R3 heap on which a listing before `add_sub_circuit` changes an acquisition index.  Core Lean only.
-/
namespace Qco.Commute

/-- `top = DeclarativeCircuit(); sub = DeclarativeCircuit(); a = Rx180(0)` (each operation gets its own link object, as
    in the driver). -/
def exBuild0 : World :=
  let w0 : World := {}
  let (w, _) := w0.newCircuit (.fixed 1)
  let (w, _) := w.newCircuit (.fixed 1)
  let (w, l1) := w.newLink {}
  let (w, _) := w.newOp { cls := .rx180, qs := [0], dur := .glob .mw, link := l1 }
  w

/-- `sub.add(a)`. -/
def exBuild1 : World := exBuild0.add 1 2
/-- `top.add(sub)`. -/
def exBuild2 : World := exBuild1.add 0 1
/-- `o = Ry180(0)` with its own link object. -/
def exBuild : World :=
  ((exBuild2.newLink {}).1.newOp { cls := .ry180, qs := [0], dur := .glob .mw, link := (exBuild2.newLink {}).2 }).1

def exA : Op := { cls := .rx180, qs := [0], dur := .glob .mw, link := 1 }
def exO : Op := { cls := .ry180, qs := [0], dur := .glob .mw, link := 2 }

def exT1 : World := { ops := #[{ cls := .comp }, { cls := .comp }, exA], links := #[{}, {}] }
def exT2 : World :=
  { ops := #[{ cls := .comp }, { cls := .comp, graph := [⟨2, none, [0]⟩] }, exA], links := #[{}, {}] }
def exT3 : World :=
  { ops := #[{ cls := .comp, graph := [⟨1, none, [0]⟩] }, { cls := .comp, graph := [⟨2, none, [0]⟩] }, exA],
    links := #[{}, {}] }

/-- the heap the build program produces: objects `0 = top`, `1 = sub`, `2 = a`, `3 = o`. -/
def exLit : World :=
  { ops := #[{ cls := .comp, graph := [⟨1, none, [0]⟩] }, { cls := .comp, graph := [⟨2, none, [0]⟩] }, exA, exO],
    links := #[{}, {}, {}] }

theorem leafAtAny_nil (w : World) (chs : List ChId) : w.leafAtAny [] chs = none := by
  unfold World.leafAtAny
  rw [listing_lit [] (by decide)]
  rfl

theorem exStepA : exT1.add 1 2 = exT2 := by
  rw [add_root_eq exT1 1 2 (by decide) (leafAtAny_nil _ _)]
  rfl

theorem exStepB : exT2.add 0 1 = exT3 := by
  rw [add_root_eq exT2 0 1 (by decide) (leafAtAny_nil _ _)]
  rfl

theorem exBuild0_eq : exBuild0 = exT1 := rfl

theorem exBuild_eq : exBuild = exLit := by
  unfold exBuild exBuild2 exBuild1
  rw [exBuild0_eq, exStepA, exStepB]
  rfl

theorem tree_single_kid {w : World} {f p q : Nat} (ht : TreeBelow w f q) (hk : w.kids p = [q])
    (hp : p < w.ops.size) (hc : (w.op p).isComp = true) (hn : p ∉ w.below f q) : TreeBelow w (f + 1) p := by
  refine TreeBelow.comp_intro hp hc (by rw [hk]; simp) ?_ ?_ ?_
  · intro n hn'; rw [hk, List.mem_singleton] at hn'; rw [hn']; exact ht
  · intro n hn'; rw [hk, List.mem_singleton] at hn'; rw [hn']; exact hn
  · intro a ha b hb hab
    rw [hk, List.mem_singleton] at ha hb
    exact absurd (ha.trans hb.symm) hab

theorem exLit_tree : TreeBelow exLit 3 0 := by
  have t2 : TreeBelow exLit 1 2 := TreeBelow.leaf_intro (by decide) (by decide) (by unfold Op.CopyStable; decide)
  have t1 : TreeBelow exLit 2 1 := tree_single_kid t2 rfl (by decide) (by decide) (by decide)
  exact tree_single_kid t1 rfl (by decide) (by decide) (by decide)

theorem exLit_range : ∀ j, (exLit.op j).link < exLit.links.size :=
  Flat.all_in_range exLit (by decide) (by decide)

theorem exLit_built : Built (exLit.op 0).graph := by
  show Built (attach [] none 1)
  apply built_attach built_nil
  · intro q h; cases h
  · decide

theorem exLit_ok : AddOk exLit 3 0 3 :=
  AddOk.of_leaf exLit_tree (by decide) (by decide) (by decide) (by decide) exLit_range exLit_built (by decide)

theorem exBuild_ok : AddOk exBuild 3 0 3 := by
  rw [exBuild_eq]; exact exLit_ok

/-- `s2 = DeclarativeCircuit(); b = Ry180(0); s2.add(b)` next to `top ⊃ sub ⊃ a`. -/
def exBuildS : World :=
  (((exBuild2.newCircuit (.fixed 1)).1.newLink {}).1.newOp
    { cls := .ry180, qs := [0], dur := .glob .mw, link := 2 }).1.add 3 4

def exB' : Op := { cls := .ry180, qs := [0], dur := .glob .mw, link := 2 }

def exT4 : World :=
  { ops := #[{ cls := .comp, graph := [⟨1, none, [0]⟩] }, { cls := .comp, graph := [⟨2, none, [0]⟩] }, exA,
             { cls := .comp }, exB'],
    links := #[{}, {}, {}] }

/-- objects `0 = top ⊃ 1 = sub ⊃ 2 = a` and `3 = s2 ⊃ 4 = b`. -/
def exLitS : World :=
  { ops := #[{ cls := .comp, graph := [⟨1, none, [0]⟩] }, { cls := .comp, graph := [⟨2, none, [0]⟩] }, exA,
             { cls := .comp, graph := [⟨4, none, [0]⟩] }, exB'],
    links := #[{}, {}, {}] }

theorem exBuildS_eq : exBuildS = exLitS := by
  unfold exBuildS exBuild2 exBuild1
  rw [exBuild0_eq, exStepA, exStepB]
  have h : (((exT3.newCircuit (.fixed 1)).1.newLink {}).1.newOp
      { cls := .ry180, qs := [0], dur := .glob .mw, link := 2 }).1 = exT4 := rfl
  rw [h, add_root_eq exT4 3 4 (by decide) (leafAtAny_nil _ _)]
  rfl

theorem exLitS_trees : TreeBelow exLitS 3 0 ∧ TreeBelow exLitS 2 3 := by
  have t2 : TreeBelow exLitS 1 2 := TreeBelow.leaf_intro (by decide) (by decide) (by unfold Op.CopyStable; decide)
  have t4 : TreeBelow exLitS 1 4 := TreeBelow.leaf_intro (by decide) (by decide) (by unfold Op.CopyStable; decide)
  have t1 : TreeBelow exLitS 2 1 := tree_single_kid t2 rfl (by decide) (by decide) (by decide)
  exact ⟨tree_single_kid t1 rfl (by decide) (by decide) (by decide), tree_single_kid t4 rfl (by decide) (by decide) (by decide)⟩

theorem exLitS_ok : AddOk exLitS 3 0 3 := by
  refine AddOk.of_tree exLitS_trees.1 (by decide) (by decide) exLitS_trees.2 (by decide) (by decide)
    (Flat.all_in_range exLitS (by decide) (by decide)) ?_ (by decide)
  · show Built (attach [] none 1)
    apply built_attach built_nil
    · intro q h; cases h
    · decide

theorem exBuildS_ok : AddOk exBuildS 3 0 3 := by
  rw [exBuildS_eq]; exact exLitS_ok

theorem exLitS_subOk : SubOk exLitS 3 2 0 3 := by
  have hS := exLitS_ok
  refine ⟨hS.tree, by decide, by decide, exLitS_trees.2, by decide, by decide,
    ⟨Flat.all_plain exLitS (by decide), hS.range⟩, hS.built, ?_⟩
  · intro j hj
    have hb : exLitS.below 2 3 = [3, 4] := rfl
    rw [hb] at hj
    simp only [List.mem_cons, List.mem_nil_iff, or_false] at hj
    right
    rcases hj with rfl | rfl
    · refine ⟨fun r hr => ?_, fun hm => absurd hm (by decide)⟩
      have h0 : (exLitS.lnk (exLitS.op 3).link).refs.head? = none := by decide
      rw [h0] at hr; cases hr
    · refine ⟨fun r hr => ?_, fun hm => absurd hm (by decide)⟩
      have h0 : (exLitS.lnk (exLitS.op 4).link).refs.head? = none := by decide
      rw [h0] at hr; cases hr

theorem exBuildS_subOk : SubOk exBuildS 3 2 0 3 := by
  rw [exBuildS_eq]; exact exLitS_subOk

theorem exBuildS_real : exBuildS.identKeys = false := by
  rw [exBuildS_eq]; rfl

/-- `0 ⊃ 1 ⊃ 2 ⊃ 3 ⊃ 4 ⊃ 0`: five nested composites closed to a cycle; composite `4` carries a link with a reference,
    the others the default link `0`.  The recursion of the listing is cut by its fuel (`ops.size + 2 = 7`) half-way through
    the second round, so object `3` keeps link `0` below an enclosing composite that meanwhile got link `1`. -/
def exCyc : World :=
  { ops := #[{ cls := .comp, graph := [⟨1, none, [0]⟩] },
             { cls := .comp, graph := [⟨2, none, [0]⟩] },
             { cls := .comp, graph := [⟨3, none, [0]⟩] },
             { cls := .comp, graph := [⟨4, none, [0]⟩] },
             { cls := .comp, link := 1, graph := [⟨0, none, [0]⟩] }],
    links := #[{}, { refs := [0] }] }

theorem exCyc_second_listing_writes :
    ((exCyc.operations 0).1.op 3).link = 0 ∧ (((exCyc.operations 0).1.operations 0).1.op 3).link = 1 := by
  decide +kernel

/-! ### the R3 witness: a listing before nesting changes an acquisition index -/

/-- `c0 = DeclarativeCircuit(); c1 = DeclarativeCircuit(); c2 = CircuitCompositeOperation(relation = own empty link);
    m = DispersiveMeasure(0, acquisition registry of c2)`. -/
def exR3Build0 : World :=
  let w0 : World := {}
  let (w, _) := w0.newCircuit (.fixed 1)
  let (w, _) := w.newCircuit (.fixed 1)
  let (w, l1) := w.newLink {}
  let (w, c2) := w.newOp { cls := .comp, link := l1 }
  let (w, l2) := w.newLink {}
  let (w, _) := w.newOp { cls := .measure, qs := [0], dur := .glob .ro, link := l2, reg := c2, tag := 7 }
  w

/-- `c2.add(m); c1.add(c2)`. -/
def exR3Build : World := (exR3Build0.add 2 3).add 1 2

def exR3M : Op := { cls := .measure, qs := [0], dur := .glob .ro, link := 2, reg := 2, tag := 7 }

def exR3a : World := { ops := #[{ cls := .comp }, { cls := .comp }, { cls := .comp, link := 1 }, exR3M], links := #[{}, {}, {}] }
def exR3b : World :=
  { ops := #[{ cls := .comp }, { cls := .comp }, { cls := .comp, link := 1, graph := [⟨3, none, [0]⟩] }, exR3M],
    links := #[{}, {}, {}] }

/-- the heap of the witness: `0 = c0` (empty), `1 = c1 ⊃ 2 = c2 ⊃ 3 = m`, the registry of `m` is `c2`. -/
def exR3 : World :=
  { ops := #[{ cls := .comp }, { cls := .comp, graph := [⟨2, none, [0]⟩] },
             { cls := .comp, link := 1, graph := [⟨3, none, [0]⟩] }, exR3M],
    links := #[{}, {}, {}] }

theorem exR3Build_eq : exR3Build = exR3 := by
  unfold exR3Build
  have h0 : exR3Build0 = exR3a := rfl
  have h1 : exR3a.add 2 3 = exR3b := by
    rw [add_root_eq exR3a 2 3 (by decide) (leafAtAny_nil _ _)]; rfl
  have h2 : exR3b.add 1 2 = exR3 := by
    rw [add_root_eq exR3b 1 2 (by decide) (leafAtAny_nil _ _)]; rfl
  rw [h0, h1, h2]

/-- in both histories the copy of `m` is object `6`; listing `c1` first makes `c2` value-equal to `c1` (both carry link
    `0` and count 1), so the lookup entry `c1 ↦ c0` answers for `c2` and the registry of the copy is re-targeted to `c0`:
    index `(0, 0)`; without the listing the registry stays `c2`, which does not list the copy: index `(-1, -1)`. -/
theorem exR3_indices :
    (((exR3.operations 1).1.addSub 0 1).1.acq 6).2 = (0, 0) ∧ ((exR3.addSub 0 1).1.acq 6).2 = (-1, -1) ∧
    (((exR3.operations 1).1.addSub 0 1).1.operations 0).2 = [6] ∧ ((exR3.addSub 0 1).1.operations 0).2 = [6] ∧
    ((exR3.operations 1).1.addSub 0 1).1.collisions = 1 ∧ (exR3.addSub 0 1).1.collisions = 0 := by
  decide +kernel

/-- the identity-keyed twin answers the same with and without the listing. -/
theorem exR3_twin_indices :
    (((({ exR3 with identKeys := true } : World).operations 1).1.addSub 0 1).1.acq 6).2 = (-1, -1) ∧
    ((({ exR3 with identKeys := true } : World).addSub 0 1).1.acq 6).2 = (-1, -1) := by
  decide +kernel

end Qco.Commute
