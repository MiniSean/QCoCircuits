import QcoVerif.Lemmas.C10ParamMask
/-
  C10, parametric layer lemmas: heaps given as binary tries, for evaluation by the kernel.

  The kernel evaluates a look-up in a 1000-element array or list in about 1000 steps; in a binary trie it takes 10.
  A heap is given as two tries (`opsT`, `lnkT`: index 0 at the root, odd indices `i` at index `(i-1)/2` of the left
  sub-trie, even ones at `(i-2)/2` of the right one); `mkWorld` is the `World` with exactly those objects, and
  `trieGet opsT / trieGet lnkT` are its accessors (`mkWorld_op`, `mkWorld_lnk`) — no invariant on the shape of the trie
  is needed.  `BT.getF` is the look-up the kernel evaluates (`trieGetF_eq`), `BT.ofList` / `arrGet` make a trie of an
  array (`arrGet_eq`), and `TCase.okM` is the check of a heap in the form the kernel evaluates (`TCase.all_ok`).
-/
namespace Qco.C10Param

open Qco Qco.C10

inductive BT (α : Type) where
  | nil : BT α
  | node (l : BT α) (v : α) (r : BT α) : BT α
  deriving Repr

def BT.get? {α} : BT α → Nat → Option α
  | .nil, _ => none
  | .node l v r, i => if i = 0 then some v else if i % 2 = 1 then l.get? ((i - 1) / 2) else r.get? ((i - 2) / 2)

def BT.toList {α} (T : BT α) (d : α) (n : Nat) : List α := (List.range n).map (fun i => (T.get? i).getD d)

def trieGet {α} (T : BT α) (d : α) (n : Nat) (i : Nat) : α := if i < n then (T.get? i).getD d else d

theorem BT.toList_getD {α} (T : BT α) (d : α) (n i : Nat) :
    ((T.toList d n)[i]?).getD d = trieGet T d n i := by
  unfold BT.toList trieGet
  by_cases h : i < n
  · simp [h]
  · simp [h]

/-- `(T.get? i).getD d` by matching on the index: an `if` on a proposition costs the kernel a `Decidable` instance at
    every level. -/
def BT.getF {α} (d : α) : BT α → Nat → α
  | .nil, _ => d
  | .node l v r, i => match i with
    | 0 => v
    | j+1 => bif (j % 2).beq 0 then l.getF d (j / 2) else r.getF d (j / 2)

theorem BT.getF_eq {α} (d : α) (T : BT α) : ∀ i, T.getF d i = (T.get? i).getD d := by
  induction T with
  | nil => intro i; rfl
  | node l v r ihl ihr =>
    intro i
    cases i with
    | zero => rfl
    | succ j =>
      have hj : j % 2 = 0 ∨ j % 2 = 1 := by omega
      rw [BT.getF, BT.get?, if_neg (Nat.succ_ne_zero j), Nat.add_sub_cancel]
      rcases hj with h | h
      · rw [if_pos (by omega), h, ← ihl]; rfl
      · rw [if_neg (by omega), h, ← ihr, show (j + 1 - 2) / 2 = j / 2 by omega]; rfl

def trieGetF {α} (T : BT α) (d : α) (n : Nat) (i : Nat) : α := bif i.blt n then T.getF d i else d

theorem trieGetF_eq {α} (T : BT α) (d : α) (n : Nat) : trieGetF T d n = trieGet T d n := by
  funext i
  unfold trieGetF trieGet
  by_cases h : i < n
  · rw [Nat.blt_eq.mpr h, if_pos h, BT.getF_eq]; rfl
  · rw [if_neg h, Bool.eq_false_iff.mpr (mt Nat.blt_eq.mp h)]; rfl

def BT.all {α} (p : α → Bool) : BT α → Bool
  | .nil => true
  | .node l v r => p v && l.all p && r.all p

theorem BT.all_get? {α} {p : α → Bool} {T : BT α} (h : T.all p = true) :
    ∀ {i v}, T.get? i = some v → p v = true := by
  induction T with
  | nil => intro i v hv; cases hv
  | node l x r ihl ihr =>
    simp only [BT.all, Bool.and_eq_true] at h
    intro i v hv
    rw [BT.get?] at hv
    split at hv
    · cases hv; exact h.1.1
    · split at hv
      · exact ihl h.1.2 hv
      · exact ihr h.2 hv

def evens {α} : List α → List α
  | [] => []
  | [x] => [x]
  | x :: _ :: r => x :: evens r

theorem getElem?_evens {α} : ∀ (l : List α) (j : Nat), (evens l)[j]? = l[2 * j]?
  | [], _ => rfl
  | [x], j => by cases j <;> rfl
  | x :: _ :: r, 0 => rfl
  | x :: y :: r, j+1 => by
    rw [evens, List.getElem?_cons_succ, getElem?_evens r j, Nat.mul_succ]
    rfl

theorem length_evens_le {α} : ∀ (l : List α), (evens l).length ≤ l.length
  | [] => Nat.le_refl _
  | [_] => Nat.le_refl _
  | _ :: _ :: r => by
    have := length_evens_le r
    simp only [evens, List.length_cons]
    omega

/-- the trie with the elements of a list at their indices (`f` bounds the depth; the length will do). -/
def BT.ofList {α} : Nat → List α → BT α
  | f+1, x :: r => .node (BT.ofList f (evens r)) x (BT.ofList f (evens r.tail))
  | _, _ => .nil

theorem BT.getF_ofList {α} (d : α) :
    ∀ (f : Nat) (l : List α), l.length ≤ f → ∀ i, (BT.ofList f l).getF d i = (l[i]?).getD d := by
  intro f
  induction f with
  | zero =>
    intro l hl i
    cases l with
    | nil => rfl
    | cons x r => simp at hl
  | succ f ih =>
    intro l hl i
    cases l with
    | nil => rfl
    | cons x r =>
      have hr : r.length ≤ f := by simpa using hl
      cases i with
      | zero => rfl
      | succ j =>
        have hj : j % 2 = 0 ∨ j % 2 = 1 := by omega
        rw [BT.ofList, BT.getF, List.getElem?_cons_succ]
        rcases hj with h | h
        · rw [h, ih _ (Nat.le_trans (length_evens_le r) hr), getElem?_evens, show 2 * (j / 2) = j by omega]
          rfl
        · have ht : r.tail.length ≤ f := by rw [List.length_tail]; omega
          rw [h, ih _ (Nat.le_trans (length_evens_le _) ht), getElem?_evens, List.getElem?_tail,
            show 2 * (j / 2) + 1 = j by omega]
          rfl

/-- look-up in an array through the trie of its elements (the kernel evaluates `Array.getD` on a literal of `n`
    elements in about `n` steps). -/
def arrGet {α} (d : α) (a : Array α) : Nat → α := (BT.ofList a.size a.toList).getF d

theorem arrGet_eq {α} (d : α) (a : Array α) : arrGet d a = fun i => a.getD i d := by
  funext i
  unfold arrGet
  rw [BT.getF_ofList d a.size a.toList (Nat.le_of_eq Array.length_toList), Array.getD_eq_getD_getElem?,
    Array.getElem?_toList]

def mkWorld (opsT : BT Op) (n : Nat) (lnkT : BT Link) (m : Nat) (dreg : List (Nat × Int)) : World :=
  { ops := (opsT.toList default n).toArray, links := (lnkT.toList default m).toArray, dreg := dreg }

theorem mkWorld_op (opsT : BT Op) (n : Nat) (lnkT : BT Link) (m : Nat) (dreg : List (Nat × Int)) :
    (mkWorld opsT n lnkT m dreg).op = trieGet opsT default n := by
  funext i
  unfold World.op mkWorld
  simp only [Array.getD_eq_getD_getElem?, List.getElem?_toArray]
  exact BT.toList_getD opsT default n i

theorem mkWorld_lnk (opsT : BT Op) (n : Nat) (lnkT : BT Link) (m : Nat) (dreg : List (Nat × Int)) :
    (mkWorld opsT n lnkT m dreg).lnk = trieGet lnkT default m := by
  funext i
  unfold World.lnk mkWorld
  simp only [Array.getD_eq_getD_getElem?, List.getElem?_toArray]
  exact BT.toList_getD lnkT default m i

def certOf (tbl : List (Nat × List (List LayerData))) (X : Nat) : List (List LayerData) :=
  ((tbl.find? (fun p => p.1 == X)).map (·.2)).getD []

/-- one recorded library circuit, heap given as tries, with a layer certificate. -/
structure TCase where
  name : String
  opsT : BT Op
  n : Nat
  lnkT : BT Link
  m : Nat
  dreg : List (Nat × Int)
  cert : List (Nat × List (List LayerData))
  c : Nat

def TCase.w (x : TCase) : World := mkWorld x.opsT x.n x.lnkT x.m x.dreg

theorem TCase.size_w (x : TCase) : x.w.ops.size = x.n := by simp [TCase.w, mkWorld, BT.toList]

def TCase.okR (x : TCase) (R : Regime) : Bool :=
  layeredOkF (trieGet x.opsT default x.n) (trieGet x.lnkT default x.m) x.w R (certOf x.cert) x.c

def TCase.ok (x : TCase) : Bool := x.okR regimeA && x.okR regimeB

theorem TCase.okR_eq (x : TCase) (R : Regime) : x.okR R = layeredOk x.w R (certOf x.cert) x.c := by
  unfold TCase.okR layeredOk TCase.w
  rw [mkWorld_op, mkWorld_lnk]

/-- a heap given as tries that passes the layered check in both regimes is free of double booking for ALL
    non-negative durations. -/
theorem TCase.sound (x : TCase) (h : x.ok = true)
    {ro mw fl rs : Int} (hro : 0 ≤ ro) (hmw : 0 ≤ mw) (hfl : 0 ≤ fl) (hrs : 0 ≤ rs)
    (heven : mw ≤ ro → (ro - mw) % 2 = 0) : NoDoubleBooking (withDurations x.w ro mw fl rs) x.c := by
  unfold TCase.ok at h
  rw [Bool.and_eq_true, TCase.okR_eq, TCase.okR_eq] at h
  exact layered_all_durations h.1 h.2 hro hmw hfl hrs heven

/-! ### the check arranged for the kernel

`TCase.okM` is `TCase.okR` with the trie read by `BT.getF`, the duration strategies checked in one pass over the trie
(`dursT`; `dursNonnegB` looks every object up by its index) and `nestedM` for `nestedB`. -/

def dursT (T : BT Op) (w : World) (R : Regime) : Bool :=
  T.all (fun o => forceDur (fun d => (durForm R w d).isNonneg) o.dur)

theorem dursT_imp {opsT : BT Op} {n : Nat} {lnkT : BT Link} {m : Nat} {dreg : List (Nat × Int)} {R : Regime}
    (h : dursT opsT (mkWorld opsT n lnkT m dreg) R = true) : dursNonnegB (mkWorld opsT n lnkT m dreg) R = true := by
  unfold dursNonnegB
  rw [List.all_eq_true]
  intro o ho
  simp only [mkWorld, BT.toList, List.mem_map] at ho
  obtain ⟨i, _, rfl⟩ := ho
  cases hg : opsT.get? i with
  | none => rfl
  | some v =>
    have := BT.all_get? h hg
    rwa [forceDur_eq] at this

def TCase.okM (x : TCase) (R : Regime) : Bool :=
  (trieGetF x.opsT default x.n x.c).isComp && dursT x.opsT x.w R &&
  nestedM (trieGetF x.opsT default x.n) (trieGetF x.lnkT default x.m) x.w R (certOf x.cert) (x.n + 2) x.c

theorem TCase.okR_of_okM {x : TCase} {R : Regime} (h : x.okM R = true) : x.okR R = true := by
  unfold TCase.okM at h
  unfold TCase.okR layeredOkF
  rw [trieGetF_eq, trieGetF_eq] at h
  rw [TCase.size_w]
  simp only [Bool.and_eq_true] at h ⊢
  exact ⟨⟨h.1.1, dursT_imp h.1.2⟩, nestedM_imp _ _ h.2⟩

theorem TCase.all_ok {l : List TCase} (h : l.all (fun x => x.okM regimeA && x.okM regimeB) = true) :
    l.all TCase.ok = true := by
  rw [List.all_eq_true] at h ⊢
  intro x hx
  have := h x hx
  rw [Bool.and_eq_true] at this
  unfold TCase.ok
  rw [TCase.okR_of_okM this.1, TCase.okR_of_okM this.2]
  rfl

end Qco.C10Param
