import QcoVerif.Model.Draw
import QcoVerif.Lemmas.Heap
import QcoVerif.Lemmas.ListingStep
import QcoVerif.Lemmas.UniqueInOrder
/-
  Helper lemmas for C18.  The mutating listing touches nothing but `link` fields (`LinkOnly`), does not look at the
  global durations (it commutes with `setG`) and leaves a `settled` circuit as it is; so `plot` is one listing plus a
  description computed in `drawWorld` (`plot_eq`).  Of a successful description: every component is that of a listed
  operation, built by `singleComp` or as one element of a space-shared group of two-qubit gates (`components_sound`).
-/
namespace Qco.Draw

open Qco

/-- `w'` differs from `w` at most in the `link` field of operations. -/
structure LinkOnly (w w' : World) : Prop where
  size : w'.ops.size = w.ops.size
  links : w'.links = w.links
  g : getG w' = getG w
  dreg : w'.dreg = w.dreg
  rreg : w'.rreg = w.rreg
  warnings : w'.warnings = w.warnings
  ops : ∀ i, w'.op i = { w.op i with link := (w'.op i).link }

theorem LinkOnly.refl (w : World) : LinkOnly w w :=
  ⟨rfl, rfl, rfl, rfl, rfl, rfl, fun _ => rfl⟩

theorem LinkOnly.trans {a b c : World} (h1 : LinkOnly a b) (h2 : LinkOnly b c) : LinkOnly a c :=
  ⟨h2.size.trans h1.size, h2.links.trans h1.links, h2.g.trans h1.g, h2.dreg.trans h1.dreg,
   h2.rreg.trans h1.rreg, h2.warnings.trans h1.warnings, fun i => by
     rw [h2.ops i, h1.ops i]⟩

theorem LinkOnly.setLink (w : World) (n l : Nat) : LinkOnly w (w.setLink n l) := by
  refine ⟨w.ops_size_setLink n l, rfl, rfl, rfl, rfl, rfl, fun i => ?_⟩
  by_cases h : i = n
  · subst h
    by_cases hi : i < w.ops.size
    · rw [w.op_setLink_self l hi]
    · rw [World.setLink, w.op_setOp_of_ge _ (Nat.le_of_not_lt hi)]
  · rw [w.op_setLink_of_ne l h]

theorem decomposed_linkOnly (f : Nat) (w : World) (c : Nat) : LinkOnly w (w.decomposed f c).1 :=
  Commute.decomposed_inv (P := LinkOnly w) (A := fun _ _ => True) (fun z n l h _ => h.trans (LinkOnly.setLink z n l))
    (fun _ _ _ _ _ => trivial) f c w (LinkOnly.refl w)

theorem operations_linkOnly (w : World) (c : Nat) : LinkOnly w (w.operations c).1 :=
  decomposed_linkOnly _ w c

theorem setG_setLink (w : World) (d : Durs) (n l : Nat) :
    (setG w d).setLink n l = setG (w.setLink n l) d := rfl

theorem setG_getG (w : World) : setG w (getG w) = w := rfl

theorem setG_setG (w : World) (d e : Durs) : setG (setG w d) e = setG w e := rfl

theorem getG_setG (w : World) (d : Durs) : getG (setG w d) = d := rfl

theorem pre_setG (w : World) (d : Durs) (n cl : Nat) :
    Commute.pre cl (setG w d) n = setG (Commute.pre cl w n) d := by
  have e : (setG w d).hasRel n = w.hasRel n := rfl
  unfold Commute.pre
  rw [e]
  split <;> rfl

theorem decomposed_setG : ∀ (f : Nat) (w : World) (d : Durs) (c : Nat),
    (setG w d).decomposed f c = (setG (w.decomposed f c).1 d, (w.decomposed f c).2)
  | 0, w, d, c => rfl
  | f+1, w, d, c => by
    have hstep : ∀ (acc : World × List Nat) (n : Nat), decompStep f (w.op c).link (setG acc.1 d, acc.2) n =
        (setG (decompStep f (w.op c).link acc n).1 d, (decompStep f (w.op c).link acc n).2) := by
      intro acc n
      simp only [Commute.decompStep_eq, pre_setG]
      show (if ((Commute.pre (w.op c).link acc.1 n).op n).isComp then _ else _) = _
      split
      · rw [decomposed_setG f]
      · rfl
    have key : ∀ (L : List Nat) (acc : World × List Nat),
        L.foldl (decompStep f (w.op c).link) (setG acc.1 d, acc.2)
          = (setG (L.foldl (decompStep f (w.op c).link) acc).1 d,
             (L.foldl (decompStep f (w.op c).link) acc).2) := by
      intro L
      induction L with
      | nil => intro acc; rfl
      | cons n L ihL => intro acc; rw [List.foldl_cons, hstep, ihL, List.foldl_cons]
    exact key _ (w, [])

theorem operations_setG (w : World) (d : Durs) (c : Nat) :
    (setG w d).operations c = (setG (w.operations c).1 d, (w.operations c).2) :=
  decomposed_setG _ w d c

theorem decomposed_of_settled : ∀ (f : Nat) (w : World) (c : Nat),
    settled w f c = true → w.decomposed f c = (w, flat w f c)
  | 0, w, c, _ => rfl
  | f+1, w, c, h => by
    rw [decomposed_succ]
    simp only [settled, List.all_eq_true, Bool.and_eq_true, Bool.or_eq_true, beq_iff_eq] at h
    have key : ∀ (L : List Nat), (∀ n ∈ L, (w.hasRel n = true ∨ (w.op n).link = (w.op c).link) ∧
          ((!(w.op n).isComp) = true ∨ settled w f n = true)) → ∀ out : List Nat,
        L.foldl (decompStep f (w.op c).link) (w, out)
          = (w, out ++ L.flatMap (fun n => if (w.op n).isComp then flat w f n else [n])) := by
      intro L
      induction L with
      | nil => intro _ out; simp
      | cons n L ih =>
        intro hL out
        obtain ⟨h1, h2⟩ := hL n List.mem_cons_self
        have hstep : (if (w.op n).isComp then ((w.decomposed f n).1, out ++ (w.decomposed f n).2) else (w, out ++ [n])) =
            (w, out ++ (if (w.op n).isComp then flat w f n else [n])) := by
          split
          · rename_i hc
            rw [decomposed_of_settled f w n (by simpa [hc] using h2)]
          · rfl
        rw [List.foldl_cons, Commute.decompStep_eq, Commute.pre_self w n _ h1, hstep,
          ih (fun m hm => hL m (List.mem_cons_of_mem _ hm)), List.flatMap_cons, List.append_assoc]
    have := key (listing (w.op c).graph) h []
    simpa [flat] using this

theorem chans_setG (w : World) (d : Durs) : ∀ (f o : Nat), (setG w d).chans f o = w.chans f o
  | 0, _ => rfl
  | f+1, o => by
    simp only [World.chans]
    have e : (setG w d).op o = w.op o := rfl
    rw [e]
    have : (fun n => (setG w d).chans f n) = (fun n => w.chans f n) := funext (chans_setG w d f)
    rw [this]

theorem occupied_setG (w : World) (d : Durs) (c : Nat) : occupied (setG w d) c = occupied w c := by
  unfold occupied World.chansOf
  have : (setG w d).depthFuel = w.depthFuel := rfl
  rw [this, chans_setG]

/-- the world in which the description is computed: the listed world under the drawing's durations
    (compact mode) or the ambient ones. -/
def drawWorld (w : World) (c : Nat) (a : Args) : World :=
  setG (w.operations c).1 (a.compact.getD (getG w))

theorem plot_eq (w : World) (c : Nat) (a : Args) :
    plot w c a =
      match reorder (occupied w c) a.order with
      | none => (w, .reject)
      | some rows =>
        ((w.operations c).1,
         describe (drawWorld w c a) rows a.labels (timesOf (drawWorld w c a)) (w.operations c).2
           (subComps (drawWorld w c a) (drawWorld w c a).depthFuel c)) := by
  have hg : getG (w.operations c).1 = getG w := (operations_linkOnly w c).g
  unfold plot drawWorld
  cases hc : a.compact with
  | none =>
    simp only [Option.getD_none]
    cases hr : reorder (occupied w c) a.order with
    | none => simp only [setG_getG]
    | some rows =>
      simp only
      rw [← hg, setG_getG]
  | some d =>
    simp only [Option.getD_some, occupied_setG]
    cases hr : reorder (occupied w c) a.order with
    | none => simp only [setG_setG, setG_getG]
    | some rows =>
      simp only [operations_setG, setG_setG]
      rw [← hg, setG_getG]

theorem spaceStep_mem (S : List TwoInfo) (gs : List (List TwoInfo × Nat)) (a : TwoInfo) (ha : a ∈ S)
    (h : ∀ g ∈ gs, ∀ x ∈ g.1, x ∈ S) : ∀ g ∈ spaceStep gs a, ∀ x ∈ g.1, x ∈ S := by
  unfold spaceStep
  split
  · intro g hg x hx
    obtain ⟨p, hp, rfl⟩ := List.mem_map.mp hg
    have hp1 : p.1 ∈ gs := List.fst_mem_of_mem_zipIdx hp
    split at hx
    · rcases List.mem_append.mp hx with hx | hx
      · exact h _ hp1 x hx
      · simp at hx; subst hx; exact ha
    · exact h _ hp1 x hx
  · intro g hg x hx
    rcases List.mem_append.mp hg with hg | hg
    · exact h g hg x hx
    · simp at hg; subst hg; simp at hx; subst hx; exact ha

theorem spaceGroups_mem (xs : List TwoInfo) : ∀ sg ∈ spaceGroups xs, ∀ a ∈ sg, a ∈ xs := by
  intro sg hsg a ha
  unfold spaceGroups at hsg
  obtain ⟨g, hg, rfl⟩ := List.mem_map.mp hsg
  have inv := foldl_inv_mem (fun gs : List (List TwoInfo × Nat) => ∀ g ∈ gs, ∀ x ∈ g.1, x ∈ xs) spaceStep
    (xs.mergeSort (fun a b => decide (b.maxRow ≤ a.maxRow))) [] (by simp)
    (fun gs b hb hgs => spaceStep_mem xs gs b (List.mem_mergeSort.mp hb) hgs)
  exact inv g hg a ha

theorem timeGroups_mem (xs : List TwoInfo) : ∀ tg ∈ timeGroups xs, ∀ a ∈ tg, a ∈ xs := by
  intro tg htg a ha
  unfold timeGroups at htg
  obtain ⟨t, _, rfl⟩ := List.mem_map.mp htg
  exact (List.mem_filter.mp ha).1

theorem twoComps_sound (w : World) (xs : List TwoInfo) (c : Comp) (hc : c ∈ twoComps w xs) :
    ∃ a ∈ xs, ∃ g n j, twoGlyph (w.op a.op).cls = some g ∧ j < n ∧
      c = ⟨a.op, g, [(twoX a.s a.d n j, a.r0), (twoX a.s a.d n j, a.r1)], a.d⟩ := by
  unfold twoComps at hc
  obtain ⟨tg, htg, hc⟩ := List.mem_flatMap.mp hc
  obtain ⟨sg, hsg, hc⟩ := List.mem_flatMap.mp hc
  obtain ⟨p, hp, hpc⟩ := List.mem_filterMap.mp hc
  rcases p with ⟨a, j⟩
  have hz := List.mem_zipIdx hp
  simp only at hz hpc
  have ha : a ∈ xs :=
    timeGroups_mem xs tg htg a (spaceGroups_mem tg sg hsg a (List.fst_mem_of_mem_zipIdx hp))
  cases hg : twoGlyph (w.op a.op).cls with
  | none => simp [hg] at hpc
  | some g =>
    simp only [hg, Option.map_some, Option.some.injEq] at hpc
    refine ⟨a, ha, g, sg.length, j, hg, by omega, hpc.symm⟩

theorem twoInfo_spec (w : World) (rows : List Int) (tm : Times) (o : Nat) (a : TwoInfo)
    (h : twoInfo w rows tm o = some a) :
    a.op = o ∧ tm o = some (a.s, a.d) ∧ rowOf rows ((w.op o).qs.headD 0) = some a.r0 ∧
    rowOf rows (((w.op o).qs.drop 1).headD 0) = some a.r1 := by
  unfold twoInfo at h
  simp only at h
  split at h
  · next s d r0 r1 h1 h2 h3 =>
    simp only [Option.some.injEq] at h
    subst h
    exact ⟨rfl, h1, h2, h3⟩
  · cases h

theorem singleComp_spec (w : World) (rows : List Int) (tm : Times) (o : Nat) (c : Comp)
    (h : singleComp w rows tm o = some c) :
    ∃ g s d rs, glyphOf (w.op o).cls = some g ∧ tm o = some (s, d) ∧
      (pivotQubits (w.op o)).mapM (rowOf rows) = some rs ∧
      c = ⟨o, g, rs.map (fun r => ((⟨s, 1⟩ : Frac), r)), if g = .rotation then unitHeight else d⟩ := by
  unfold singleComp at h
  simp only at h
  split at h
  · next g s d hg htm =>
    obtain ⟨rs, hrs, rfl⟩ := Option.map_eq_some_iff.mp h
    exact ⟨g, s, d, rs, hg, htm, hrs, rfl⟩
  · cases h

theorem twoGlyph_spec {c : Cls} {g : Glyph} (h : twoGlyph c = some g) :
    glyphOf c = some g ∧ (g = .twoGate ∨ g = .twoVacant) := by
  unfold twoGlyph at h
  split at h <;> cases h <;> simp [glyphOf]

theorem bulkKey_ne_two (c : Cls) (h : bulkKey c ≠ .two) : isTwo c = false ∧ bulkKey c = c := by
  unfold bulkKey at h ⊢
  cases hc : isTwo c
  · simp
  · simp [hc] at h

/-- every component is the component of a listed operation: either the individual one, or the
    two-qubit one with some element index `j` of some space-shared group of size `n`. -/
theorem componentsOf_sound (w : World) (rows : List Int) (tm : Times) (ops : List Nat) (cs : List Comp)
    (h : componentsOf w rows tm ops = some cs) (c : Comp) (hc : c ∈ cs) :
    c.op ∈ ops ∧
    ((isTwo (w.op c.op).cls = false ∧ singleComp w rows tm c.op = some c) ∨
     (isTwo (w.op c.op).cls = true ∧ ∃ s d r0 r1 g n j,
        tm c.op = some (s, d) ∧ rowOf rows ((w.op c.op).qs.headD 0) = some r0 ∧
        rowOf rows (((w.op c.op).qs.drop 1).headD 0) = some r1 ∧
        twoGlyph (w.op c.op).cls = some g ∧ j < n ∧
        c = ⟨c.op, g, [(twoX s d n j, r0), (twoX s d n j, r1)], d⟩)) := by
  unfold componentsOf at h
  simp only [Option.map_eq_some_iff] at h
  obtain ⟨ls, hls, rfl⟩ := h
  obtain ⟨l, hl, hcl⟩ := List.mem_flatten.mp hc
  obtain ⟨k, hk, hkl⟩ := mapM_mem_right _ _ _ hls l hl
  by_cases h2 : (k == Cls.two) = true
  · simp only [h2, if_true, Option.map_eq_some_iff] at hkl
    obtain ⟨infos, hinf, rfl⟩ := hkl
    obtain ⟨a, ha, g, n, j, hg, hj, rfl⟩ := twoComps_sound w infos c hcl
    obtain ⟨o, ho, hoa⟩ := mapM_mem_right _ _ _ hinf a ha
    obtain ⟨e1, e2, e3, e4⟩ := twoInfo_spec w rows tm o a hoa
    have hof := List.mem_filter.mp ho
    simp only at e1 ⊢
    subst e1
    refine ⟨hof.1, Or.inr ⟨hof.2, a.s, a.d, a.r0, a.r1, g, n, j, e2, e3, e4, hg, hj, rfl⟩⟩
  · simp only [h2] at hkl
    obtain ⟨o, ho, hoc⟩ := mapM_mem_right _ _ _ hkl c hcl
    have hof := List.mem_filter.mp ho
    obtain ⟨_, _, _, _, _, _, _, e⟩ := singleComp_spec w rows tm o c hoc
    have e : c.op = o := congrArg Comp.op e
    subst e
    have hk' := (uniqueInOrder_mem _ _).mp hk
    obtain ⟨o', _, ho'⟩ := List.mem_map.mp hk'
    have hcls : (w.op c.op).cls = k := by simpa using hof.2
    have hne : bulkKey (w.op o').cls ≠ .two := by
      rw [ho']; intro hh; rw [hh] at h2; exact h2 rfl
    have := bulkKey_ne_two _ hne
    refine ⟨hof.1, Or.inl ⟨?_, hoc⟩⟩
    rw [hcls, ← ho', this.2]
    exact this.1

/-- every component of a listing is the component of a listed operation that occupies a channel. -/
theorem components_sound (w : World) (rows : List Int) (tm : Times) (ops : List Nat) (cs : List Comp)
    (h : components w rows tm ops = some cs) (c : Comp) (hc : c ∈ cs) :
    (c.op ∈ ops ∧ (w.op c.op).leafChans ≠ []) ∧
    ((isTwo (w.op c.op).cls = false ∧ singleComp w rows tm c.op = some c) ∨
     (isTwo (w.op c.op).cls = true ∧ ∃ s d r0 r1 g n j,
        tm c.op = some (s, d) ∧ rowOf rows ((w.op c.op).qs.headD 0) = some r0 ∧
        rowOf rows (((w.op c.op).qs.drop 1).headD 0) = some r1 ∧
        twoGlyph (w.op c.op).cls = some g ∧ j < n ∧
        c = ⟨c.op, g, [(twoX s d n j, r0), (twoX s d n j, r1)], d⟩)) := by
  obtain ⟨hm, hrest⟩ := componentsOf_sound w rows tm _ cs h c hc
  have := List.mem_filter.mp hm
  refine ⟨⟨this.1, ?_⟩, hrest⟩
  intro he
  have h2 := this.2
  rw [he] at h2
  simp at h2

theorem describe_ok (w : World) (rows : List Int) (lab : List (Int × String)) (tm : Times)
    (ops subs : List Nat) (d : Desc) (h : describe w rows lab tm ops subs = .ok d) :
    ∃ ts, ops.mapM tm = some ts ∧ d.width = latestEnd (ts.map (fun t => t.1 + t.2)) + 8 ∧
      components w rows tm ops = some d.comps ∧ d.rows = rows ∧ d.labels = labelsOf rows lab := by
  unfold describe at h
  split at h
  · cases h
  · next ts hts =>
    split at h
    · cases h
    · next cs hcs =>
      split at h
      · split at h <;> cases h
      · cases h; exact ⟨ts, hts, rfl, hcs, rfl, rfl⟩

theorem mem_uniqueInOrder {α} [BEq α] [LawfulBEq α] (l : List α) (a : α) :
    a ∈ uniqueInOrder l ↔ a ∈ l := uniqueInOrder_mem l a

end Qco.Draw
