import QcoVerif.Model.Builder
/-
  Reading the heap after one primitive update: what `op`, `lnk`, the sizes and the registries of a `World` are after
  `newLink`, `newOp`, `setOp`, `setLink`, `setGraph`.  Every builder function is a composition of these five, so these
  equations are all a proof needs to know about the representation (`Array.getD`, `push`, `setIfInBounds`).
  For the writes there is one lemma per case (`_self`, `_of_ne`, `_of_lt`, `_new`) and the `if` form (`op_setOp`,
  `op_setLink`, `op_setGraph`, `op_newOp`, `lnk_newLink`) for proofs that split on the case.
-/
namespace Qco.World

variable (w : World)

/-! ### reading: only the arrays matter, and beyond them sits the default object / link -/

theorem op_of_ops_eq {w1 w2 : World} (h : w1.ops = w2.ops) (j : Nat) : w1.op j = w2.op j := by
  unfold op; rw [h]

theorem lnk_of_links_eq {w1 w2 : World} (h : w1.links = w2.links) (l : Nat) : w1.lnk l = w2.lnk l := by
  unfold lnk; rw [h]

theorem op_of_ge {o : Nat} (h : w.ops.size ≤ o) : w.op o = default := by
  unfold op
  simp [Array.getD, Nat.not_lt.mpr h]

theorem lnk_of_ge {l : Nat} (h : w.links.size ≤ l) : w.lnk l = default := by
  unfold lnk
  simp [Array.getD, Nat.not_lt.mpr h]

theorem newLink_snd (L : Link) : (w.newLink L).2 = w.links.size := rfl
theorem ops_newLink (L : Link) : (w.newLink L).1.ops = w.ops := rfl
theorem op_newLink (L : Link) (i : Nat) : (w.newLink L).1.op i = w.op i := rfl
theorem links_size_newLink (L : Link) : (w.newLink L).1.links.size = w.links.size + 1 := by
  simp [newLink]

theorem lnk_newLink_new (L : Link) : (w.newLink L).1.lnk w.links.size = L := by
  simp [newLink, lnk, Array.getD]

theorem lnk_newLink_of_lt (L : Link) {l : Nat} (h : l < w.links.size) : (w.newLink L).1.lnk l = w.lnk l := by
  simp [newLink, lnk, Array.getD, h, Nat.lt_succ_of_lt h, Array.getElem_push_lt]

theorem lnk_newLink_of_ne (L : Link) {l : Nat} (h : l ≠ w.links.size) : (w.newLink L).1.lnk l = w.lnk l := by
  by_cases hl : l < w.links.size
  · exact w.lnk_newLink_of_lt L hl
  · have h1 : ¬ l < w.links.size + 1 := by omega
    simp [newLink, lnk, Array.getD, hl, h1]

theorem lnk_newLink (L : Link) (l : Nat) :
    (w.newLink L).1.lnk l = if l = w.links.size then L else w.lnk l := by
  split
  · rename_i h; rw [h]; exact w.lnk_newLink_new L
  · rename_i h; exact w.lnk_newLink_of_ne L h

theorem newOp_snd (o : Op) : (w.newOp o).2 = w.ops.size := rfl
theorem links_newOp (o : Op) : (w.newOp o).1.links = w.links := rfl
theorem lnk_newOp (o : Op) (l : Nat) : (w.newOp o).1.lnk l = w.lnk l := rfl
theorem ops_size_newOp (o : Op) : (w.newOp o).1.ops.size = w.ops.size + 1 := by
  simp [newOp]

theorem op_newOp_new (o : Op) : (w.newOp o).1.op w.ops.size = o := by
  simp [newOp, op, Array.getD]

theorem op_newOp_of_lt (o : Op) {i : Nat} (h : i < w.ops.size) : (w.newOp o).1.op i = w.op i := by
  simp [newOp, op, Array.getD, h, Nat.lt_succ_of_lt h, Array.getElem_push_lt]

theorem op_newOp_of_ne (o : Op) {i : Nat} (h : i ≠ w.ops.size) : (w.newOp o).1.op i = w.op i := by
  by_cases hi : i < w.ops.size
  · exact w.op_newOp_of_lt o hi
  · have h1 : ¬ i < w.ops.size + 1 := by omega
    simp [newOp, op, Array.getD, hi, h1]

theorem op_newOp (o : Op) (j : Nat) : (w.newOp o).1.op j = if j = w.ops.size then o else w.op j := by
  split
  · rename_i hj; rw [hj]; exact w.op_newOp_new o
  · rename_i hj; exact w.op_newOp_of_ne o hj

/-! ### `setOp`, `setLink`, `setGraph`: object `i` is replaced, nothing else is touched -/

theorem links_setOp (i : Nat) (o : Op) : (w.setOp i o).links = w.links := rfl
theorem lnk_setOp (i : Nat) (o : Op) (l : Nat) : (w.setOp i o).lnk l = w.lnk l := rfl
theorem ops_size_setOp (i : Nat) (o : Op) : (w.setOp i o).ops.size = w.ops.size := by
  simp [setOp]

theorem op_setOp_self {i : Nat} (o : Op) (h : i < w.ops.size) : (w.setOp i o).op i = o := by
  simp [setOp, op, Array.getD, h]

theorem op_setOp_of_ne {i j : Nat} (o : Op) (h : j ≠ i) : (w.setOp i o).op j = w.op j := by
  unfold setOp op
  simp only [Array.getD_eq_getD_getElem?]
  rw [Array.getElem?_setIfInBounds_ne (Ne.symm h)]

/-- out of range nothing is stored. -/
theorem op_setOp_of_ge {i : Nat} (o : Op) (h : w.ops.size ≤ i) (j : Nat) : (w.setOp i o).op j = w.op j := by
  by_cases hj : j = i
  · subst hj
    have h1 : ¬ j < w.ops.size := by omega
    simp [setOp, op, Array.getD, h1]
  · exact w.op_setOp_of_ne o hj

theorem op_setOp (i : Nat) (o : Op) (j : Nat) :
    (w.setOp i o).op j = if i = j ∧ i < w.ops.size then o else w.op j := by
  by_cases hij : i = j
  · subst hij
    by_cases hlt : i < w.ops.size
    · rw [if_pos ⟨rfl, hlt⟩, w.op_setOp_self o hlt]
    · rw [if_neg (fun h => hlt h.2), w.op_setOp_of_ge o (Nat.le_of_not_lt hlt)]
  · rw [if_neg (fun h => hij h.1), w.op_setOp_of_ne o (Ne.symm hij)]

theorem setOp_self (n : Nat) : w.setOp n (w.op n) = w := by
  have : w.ops.setIfInBounds n (w.op n) = w.ops := by
    apply Array.ext
    · simp
    · intro i h1 h2
      simp only [World.op]
      rw [Array.getElem_setIfInBounds]
      split
      · next h => subst h; simp [Array.getD, h2]
      · rfl
  simp only [World.setOp, this]

theorem links_setLink (i l : Nat) : (w.setLink i l).links = w.links := rfl
theorem lnk_setLink (i l k : Nat) : (w.setLink i l).lnk k = w.lnk k := rfl
theorem ops_size_setLink (i l : Nat) : (w.setLink i l).ops.size = w.ops.size := w.ops_size_setOp i _

theorem op_setLink_self {i : Nat} (l : Nat) (h : i < w.ops.size) : (w.setLink i l).op i = { w.op i with link := l } :=
  w.op_setOp_self _ h

theorem op_setLink_of_ne {i j : Nat} (l : Nat) (h : j ≠ i) : (w.setLink i l).op j = w.op j :=
  w.op_setOp_of_ne _ h

theorem op_setLink (i l j : Nat) :
    (w.setLink i l).op j = if i = j ∧ i < w.ops.size then { w.op i with link := l } else w.op j :=
  w.op_setOp i _ j

theorem setLink_self (n l : Nat) (h : (w.op n).link = l) : w.setLink n l = w := by
  subst h
  exact w.setOp_self n

theorem links_setGraph (i : Nat) (g : List Entry) : (w.setGraph i g).links = w.links := rfl
theorem lnk_setGraph (i : Nat) (g : List Entry) (l : Nat) : (w.setGraph i g).lnk l = w.lnk l := rfl
theorem ops_size_setGraph (i : Nat) (g : List Entry) : (w.setGraph i g).ops.size = w.ops.size := w.ops_size_setOp i _

theorem op_setGraph_self {i : Nat} (g : List Entry) (h : i < w.ops.size) :
    (w.setGraph i g).op i = { w.op i with graph := g } :=
  w.op_setOp_self _ h

theorem op_setGraph_of_ne {i j : Nat} (g : List Entry) (h : j ≠ i) : (w.setGraph i g).op j = w.op j :=
  w.op_setOp_of_ne _ h

theorem op_setGraph (i : Nat) (g : List Entry) (j : Nat) :
    (w.setGraph i g).op j = if i = j ∧ i < w.ops.size then { w.op i with graph := g } else w.op j :=
  w.op_setOp i _ j

theorem op_setGraph_fields (i : Nat) (g : List Entry) (j : Nat) :
    ∃ g', (w.setGraph i g).op j = { w.op j with graph := g' } := by
  rw [w.op_setGraph]
  split
  · rename_i h; exact ⟨g, by rw [h.1]⟩
  · exact ⟨_, rfl⟩

theorem link_setGraph (i : Nat) (g : List Entry) (j : Nat) : ((w.setGraph i g).op j).link = (w.op j).link := by
  rw [op_setGraph]; split
  · rename_i h; rw [← h.1]
  · rfl

theorem cls_setGraph (i : Nat) (g : List Entry) (j : Nat) : ((w.setGraph i g).op j).cls = (w.op j).cls := by
  rw [op_setGraph]; split
  · rename_i h; rw [← h.1]
  · rfl

theorem rep_setGraph (i : Nat) (g : List Entry) (j : Nat) : ((w.setGraph i g).op j).rep = (w.op j).rep := by
  rw [op_setGraph]; split
  · rename_i h; rw [← h.1]
  · rfl

theorem isComp_setGraph (i : Nat) (g : List Entry) (j : Nat) : ((w.setGraph i g).op j).isComp = (w.op j).isComp := by
  unfold Op.isComp; rw [cls_setGraph]

theorem graph_setGraph (i : Nat) (g : List Entry) (j : Nat) :
    ((w.setGraph i g).op j).graph = if i = j ∧ i < w.ops.size then g else (w.op j).graph := by
  rw [op_setGraph]; split <;> rfl

theorem graph_setGraph_self {i : Nat} (g : List Entry) (h : i < w.ops.size) :
    ((w.setGraph i g).op i).graph = g := by
  rw [w.op_setGraph_self g h]

theorem hasRel_congr {w w' : World} {n : Nat} (ho : w'.op n = w.op n)
    (hl : w'.lnk (w.op n).link = w.lnk (w.op n).link) : w'.hasRel n = w.hasRel n := by
  unfold World.hasRel; rw [ho, hl]

theorem hasRel_false_iff (o : Nat) : w.hasRel o = false ↔ (w.lnk (w.op o).link).refs = [] := by
  simp [World.hasRel]

theorem hasRel_true_iff (o : Nat) : w.hasRel o = true ↔ (w.lnk (w.op o).link).refs ≠ [] := by
  simp [World.hasRel]

theorem refOf_single (l : Nat) (h : (w.lnk l).multi = false) :
    w.refOf l = some (w.lnk l).refs.head? := by
  simp [World.refOf, h]

/-! ### the settings and the identity registry are written by no update -/

theorem identKeys_setOp (i : Nat) (o : Op) : (w.setOp i o).identKeys = w.identKeys := rfl

theorem eqKey_congr {w w' : World} (hi : w'.identKeys = w.identKeys) {x : Nat} (ho : w'.op x = w.op x) :
    w'.eqKey x = w.eqKey x := by
  unfold World.eqKey; rw [hi, ho]

theorem gdur_setOp (i : Nat) (o : Op) (k : GKey) : (w.setOp i o).gdur k = w.gdur k := by cases k <;> rfl
theorem leafDur_setOp (i : Nat) (o : Op) (d : Dur) : (w.setOp i o).leafDur d = w.leafDur d := by
  cases d <;> simp [leafDur, gdur_setOp] <;> rfl
theorem repCount_setOp (i : Nat) (o : Op) (r : Rep) : (w.setOp i o).repCount r = w.repCount r := by cases r <;> rfl

end Qco.World
