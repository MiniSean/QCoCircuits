import QcoVerif.Model.RepCode
/-
  C09: the finite facts about a description and a container shape (`Facts`: one symbolic run each) from which
  `RepLift` derives the protocol for every number of QEC cycles and every concrete computational initial state.
-/
namespace Qco.RepCode
open Qco.StimSem

def view (o : Option St) : Option (List Nat × List Nat × Nat) := o.map fun s => (s.mrec, s.det, s.obs)

def notXV (p : List Ins) : Bool := p.all fun i => !isXV i

/-- outcomes of one cycle of odd / even number, most recent first -/
def cB (d : Desc) (nD nA : Nat) (b : Bool) : List Nat := (d.measAnc.map (cycleFormB d nD nA b)).reverse
/-- final data outcomes, most recent first -/
def finB (d : Desc) (nD : Nat) (b : Bool) : List Nat := (d.measData.map (finalFormB d nD b)).reverse

/-- listing of the QEC sub-circuit for more than three cycles (every block listed once) -/
def qecListing4 (d : Desc) : List Ins := block1 d ++ block2 d ++ block3 d true
/-- final measurement, detectors, observable for more than three cycles -/
def finalPart4 (d : Desc) : List Ins :=
  finalPart d true true (initPart d [] ++ qecListing4 d) (qecListing4 d)

def expectedView (d : Desc) (c nD nA : Nat) : List Nat × List Nat × Nat :=
  ((expectedRecord d c nD nA).reverse, (expectedDetectors d c nD nA).reverse, expectedObservable d c nD)

/-- What is checked per description and per container shape (number of data / ancilla states given). -/
structure Facts (d : Desc) (nD nA : Nat) : Prop where
  wf : d.wellFormed = true
  /-- heralding + preparation: record of zeros, data at x, ancilla at a -/
  init : (prepSym d nD nA).map (fun prep => run (initPart d prep) (start d.size)) =
          some (some ⟨stateB d nD nA false, zeros d, [], 0⟩)
  /-- 0, 1, 2, 3 cycles: the whole body -/
  small0 : view (run (body d 0) ⟨stateB d nD nA false, zeros d, [], 0⟩) = some (expectedView d 0 nD nA)
  small1 : view (run (body d 1) ⟨stateB d nD nA false, zeros d, [], 0⟩) = some (expectedView d 1 nD nA)
  small2 : view (run (body d 2) ⟨stateB d nD nA false, zeros d, [], 0⟩) = some (expectedView d 2 nD nA)
  small3 : view (run (body d 3) ⟨stateB d nD nA false, zeros d, [], 0⟩) = some (expectedView d 3 nD nA)
  /-- the first two cycles (first sub-circuit, twice) -/
  pre : run (block1 d ++ block1 d) ⟨stateB d nD nA false, [], [], 0⟩ =
          some ⟨stateB d nD nA false, cB d nD nA false ++ cB d nD nA true,
                (d.ancIdx.map (cycleForm d nD nA 1) ++ d.ancIdx.map (cycleForm d nD nA 2)).reverse, 0⟩
  /-- one pass of the second sub-circuit, from an even / odd number of cycles -/
  mid0 : run (block2 d) ⟨stateB d nD nA false, cB d nD nA false ++ cB d nD nA true, [], 0⟩ =
          some ⟨stateB d nD nA true, cB d nD nA true ++ (cB d nD nA false ++ cB d nD nA true),
                List.replicate d.ancIdx.length 0, 0⟩
  mid1 : run (block2 d) ⟨stateB d nD nA true, cB d nD nA true ++ cB d nD nA false, [], 0⟩ =
          some ⟨stateB d nD nA false, cB d nD nA false ++ (cB d nD nA true ++ cB d nD nA false),
                List.replicate d.ancIdx.length 0, 0⟩
  /-- last cycle, final measurement, final detectors, observable -/
  post0 : view (run (block3 d true ++ finalPart4 d) ⟨stateB d nD nA false, cB d nD nA false ++ cB d nD nA true, [], 0⟩) =
          some (finB d nD false ++ (cB d nD nA true ++ (cB d nD nA false ++ cB d nD nA true)),
                List.replicate (2 * d.ancIdx.length) 0, expectedObservableB d nD false)
  post1 : view (run (block3 d true ++ finalPart4 d) ⟨stateB d nD nA true, cB d nD nA true ++ cB d nD nA false, [], 0⟩) =
          some (finB d nD true ++ (cB d nD nA false ++ (cB d nD nA true ++ cB d nD nA false)),
                List.replicate (2 * d.ancIdx.length) 0, expectedObservableB d nD true)
  /-- one refocusing round: data flipped (with refocusing), ancilla accumulates the parity and is measured -/
  round0 : run (roundDD d) ⟨stateB d nD nA false, [], [], 0⟩ = some ⟨stateB d nD nA true, cB d nD nA true, [], 0⟩
  round1 : run (roundDD d) ⟨stateB d nD nA true, [], [], 0⟩ = some ⟨stateB d nD nA false, cB d nD nA false, [], 0⟩
  /-- the prepared state holds variable i on data qubit i, variable nD+j on ancilla j (0 if no state was given) -/
  prepData : ((List.range nD).all fun i =>
      decide ((stateB d nD nA false)[d.dataIdx.getD i 0]? = some ⟨.Z, var (dataVar i)⟩)) = true
  prepAnc : ((List.range d.ancIdx.length).all fun j =>
      decide ((stateB d nD nA false)[d.ancIdx.getD j 0]? = some ⟨.Z, if j < nA then var (ancVar nD j) else 0⟩)) = true
  /-- nothing but the preparation layer depends on the initial state -/
  noXV : notXV (initPart d [] ++ body d 0 ++ body d 1 ++ body d 2 ++ body d 3 ++ block1 d ++ block2 d ++
            block3 d true ++ finalPart4 d) = true

/-- table entries of a list of descriptions: with and without refocusing; container with all data states and
    with none / all ancilla states -/
def entries (ds : List Desc) : List (Desc × Nat × Nat) :=
  ds.flatMap fun d =>
    [true, false].flatMap fun r =>
      let d' : Desc := { d with refocus := r }
      (if d.ancIdx.isEmpty then [0] else [0, d.ancIdx.length]).map fun nA => (d', d.dataIdx.length, nA)

end Qco.RepCode
