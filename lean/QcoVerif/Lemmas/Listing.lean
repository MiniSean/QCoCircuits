import QcoVerif.Lemmas.Export
/-
  The mutating listing (`decomposed_operations`) as a fold over heaps.

  `World.decomposed (g+1) c` is the fold of `decompStep g (link of c)` over the listing of `c`; its world component is the
  fold of `wstep`: `pre` hands the link down to a relation-less node, then a composite node is listed in turn.  A property
  of heaps that survives every `setLink` a listing may perform survives the listing (`decomposed_inv`); that the listing
  allocates nothing is an instance.  The listing is idempotent on the sequence it returns.  `pre`, `wstep` and what is
  proved of them here and in Lemmas/ListingStep.lean are named `Commute.…`, like the commutation argument of C03 that is
  stated with them (Lemmas/Commute.lean).  Core Lean only.
-/
namespace Qco

def decompStep (f : Nat) (cl : Nat) (acc : World × List Nat) (n : Nat) : World × List Nat :=
  let w := if !acc.1.hasRel n then acc.1.setLink n cl else acc.1
  if (w.op n).isComp then
    ((w.decomposed f n).1, acc.2 ++ (w.decomposed f n).2)
  else (w, acc.2 ++ [n])

theorem decomposed_succ (w : World) (f c : Nat) :
    w.decomposed (f+1) c = (listing (w.op c).graph).foldl (decompStep f (w.op c).link) (w, []) := by
  rfl

namespace Commute

/-- a node without a relation is handed the link `cl` of the enclosing composite. -/
def pre (cl : Nat) (y : World) (n : Nat) : World := if !y.hasRel n then y.setLink n cl else y

def wstep (g cl : Nat) (y : World) (n : Nat) : World :=
  if ((pre cl y n).op n).isComp then ((pre cl y n).decomposed g n).1 else pre cl y n

theorem decompStep_eq (g cl : Nat) (acc : World × List Nat) (n : Nat) :
    decompStep g cl acc n =
      if ((pre cl acc.1 n).op n).isComp then
        (((pre cl acc.1 n).decomposed g n).1, acc.2 ++ ((pre cl acc.1 n).decomposed g n).2)
      else (pre cl acc.1 n, acc.2 ++ [n]) := rfl

theorem decompStep_fst (g cl : Nat) (acc : World × List Nat) (n : Nat) :
    (decompStep g cl acc n).1 = wstep g cl acc.1 n := by
  rw [decompStep_eq]
  unfold wstep
  split <;> rfl

theorem foldl_decompStep_fst (g cl : Nat) : ∀ (L : List Nat) (acc : World × List Nat),
    (L.foldl (decompStep g cl) acc).1 = L.foldl (wstep g cl) acc.1 := by
  intro L
  induction L with
  | nil => intro acc; rfl
  | cons n ns ih =>
    intro acc
    simp only [List.foldl_cons]
    rw [ih, decompStep_fst]

theorem decomposed_fst (y : World) (g c : Nat) :
    (y.decomposed (g + 1) c).1 = (listing (y.op c).graph).foldl (wstep g (y.op c).link) y := by
  rw [decomposed_succ, foldl_decompStep_fst]

section inv

variable {P : World → Prop} {A : Nat → Nat → Prop} (hset : ∀ w n l, P w → A n l → P (w.setLink n l))
include hset

theorem pre_inv {cl : Nat} {y : World} {n : Nat} (h : P y) (ha : A n cl) : P (pre cl y n) := by
  unfold pre
  split
  · exact hset y n cl h ha
  · exact h

theorem wstep_inv (g : Nat) (ih : ∀ c w, P w → P (w.decomposed g c).1) {cl : Nat} {y : World} {n : Nat} (h : P y)
    (ha : A n cl) : P (wstep g cl y n) := by
  unfold wstep
  split
  · exact ih _ _ (pre_inv hset h ha)
  · exact pre_inv hset h ha

/-- `A n l` says that the listing may give link `l` to node `n`; it is read off the heap when the listing of a composite
    starts (`hA`), so it has to be stated in terms that the assignments themselves do not change. -/
theorem decomposed_inv (hA : ∀ w c n, P w → n ∈ listing (w.op c).graph → A n (w.op c).link) :
    ∀ (g c : Nat) (w : World), P w → P (w.decomposed g c).1 := by
  intro g
  induction g with
  | zero => intro c w h; exact h
  | succ g ih =>
    intro c w h
    rw [decomposed_fst]
    exact foldl_inv_mem P _ _ w h (fun y n hn hy => wstep_inv hset g ih hy (hA w c n h hn))

end inv

end Commute

theorem decomposed_sizes (f c : Nat) (w : World) :
    (w.decomposed f c).1.ops.size = w.ops.size ∧ (w.decomposed f c).1.links = w.links :=
  Commute.decomposed_inv (P := fun z => z.ops.size = w.ops.size ∧ z.links = w.links) (A := fun _ _ => True)
    (fun z n l h _ => ⟨(z.ops_size_setLink n l).trans h.1, h.2⟩) (fun _ _ _ _ _ => trivial) f c w ⟨rfl, rfl⟩

theorem operations_ops_size (w : World) (c : Nat) : (w.operations c).1.ops.size = w.ops.size :=
  (decomposed_sizes w.depthFuel c w).1

theorem operations_links (w : World) (c : Nat) : (w.operations c).1.links = w.links :=
  (decomposed_sizes w.depthFuel c w).2

/-- the pure walk only reads class flags and graphs, which the listing does not touch. -/
theorem leafListing_shape {w w0 : World} (h : Shape w w0) : ∀ (f c : Nat), w.leafListing f c = w0.leafListing f c := by
  intro f
  induction f with
  | zero => intro c; rfl
  | succ f ih =>
    intro c
    unfold World.leafListing
    rw [h.graph c]
    apply flatMap_congr'
    intro n _
    rw [h.isComp n, ih n]

theorem operations_twice (w : World) (c : Nat) :
    ((w.operations c).1.operations c).2 = (w.operations c).2 := by
  have hs := operations_shape w c
  have h1 := (decomposed_spec w (w.operations c).1.depthFuel c (w.operations c).1 hs).2
  have hfuel : (w.operations c).1.depthFuel = w.depthFuel := by
    unfold World.depthFuel; rw [operations_ops_size]
  rw [hfuel] at h1
  have h2 := (decomposed_spec w w.depthFuel c w (Shape.refl w)).2
  show ((w.operations c).1.decomposed (w.operations c).1.depthFuel c).2 = (w.decomposed w.depthFuel c).2
  rw [hfuel, h1, h2]

end Qco
