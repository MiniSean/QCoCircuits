import QcoVerif.Lemmas.C10Sched
/-
  C10, parametric layer lemmas (namespace `Qco.C10Param`).

  The library circuits are overlap-free for one uniform reason, independent of the number of qubits:
  between two synchronisation points (an all-qubit barrier, the start of a block, the last operation of the
  previous gate layer) every qubit (group) carries ONE FOLLOWED_BY path of operations, and what comes next hangs
  below the LAST operation of a path that ends LATEST (`Dominated`).  This file proves that statement about the
  evaluator `evStart / evEnd / evDur` (QcoVerif/Model/Timing.lean) for an arbitrary number of paths, arbitrary path
  lengths, an arbitrary number of layers and arbitrary non-negative durations, and that the two kinds of layers of
  the library rounds are dominated (`dominated_uniform`, `dominated_refocus`).
-/
namespace Qco.C10Param

open Qco Qco.C10

/-- `b` is reachable from `a` through FOLLOWED_BY links (single links, or the group links made by `extend`).
    Properties/C10.lean states its theorems with an inductive of its own, `C10.FbChain`, with the same two
    constructors (`C10.reach_iff_fbChain`); the lemma files use `Reach` throughout. -/
inductive Reach (w : World) : Nat → Nat → Prop
  | step {a b} : FbStep w a b → Reach w a b
  | tail {a m b} : Reach w a m → FbStep w m b → Reach w a b

theorem Reach.head {w : World} {a m b : Nat} (h1 : FbStep w a m) (h2 : Reach w m b) : Reach w a b := by
  induction h2 with
  | step h => exact .tail (.step h1) h
  | tail _ h ih => exact .tail ih h

theorem Reach.trans {w : World} {a m b : Nat} (h1 : Reach w a m) (h2 : Reach w m b) : Reach w a b := by
  induction h2 with
  | step h => exact .tail h1 h
  | tail _ h ih => exact .tail ih h

theorem Reach.or_trans {w : World} {a m b : Nat} (h1 : m = a ∨ Reach w a m) (h2 : b = m ∨ Reach w m b) :
    b = a ∨ Reach w a b := by
  rcases h2 with rfl | h2
  · exact h1
  · rcases h1 with rfl | h1
    · exact Or.inr h2
    · exact Or.inr (h1.trans h2)

theorem Reach.of_pred {w : World} {a z : Nat} (h : ∃ Q, FbStep w Q z ∧ (Q = a ∨ Reach w a Q)) : Reach w a z := by
  obtain ⟨Q, hQ, rfl | hr⟩ := h
  · exact .step hQ
  · exact .tail hr hQ

def Before (w : World) (a b : Nat) : Prop := ∀ ea sb, End w a ea → Start w b sb → ea ≤ sb

theorem Reach.end_defined {w : World} {a b : Nat} (h : Reach w a b) {sb : Int} (hb : Start w b sb) :
    ∃ ea, End w a ea := by
  induction h generalizing sb with
  | step hs =>
    obtain ⟨ea, hea, _⟩ := fbStep_end_le_start hs hb
    exact ⟨ea, hea⟩
  | tail _ hs ih =>
    obtain ⟨em, hem, _⟩ := fbStep_end_le_start hs hb
    obtain ⟨sm, _, hsm, _, _⟩ := hem.decompose
    exact ih hsm

/-- **two operations on one FOLLOWED_BY path never overlap** (same statement as
    `C10.followed_by_chain_no_overlap`, about `Reach`). -/
theorem Reach.before {w : World} (hd : LeafDurNonneg w) {a b : Nat} (h : Reach w a b) : Before w a b := by
  intro ea sb ha hb
  induction h generalizing sb with
  | step hs =>
    obtain ⟨ea', hea', hle⟩ := fbStep_end_le_start hs hb
    rw [ha.unique hea']; exact hle
  | tail _ hs ih =>
    obtain ⟨em, hem, hle⟩ := fbStep_end_le_start hs hb
    obtain ⟨sm, dm, hsm, hdm, heq⟩ := hem.decompose
    have h0 : 0 ≤ dm := dur_nonneg hd hdm
    have := ih _ hsm
    omega

/-- `x` is FOLLOWED_BY-linked to exactly `a`: through a single link, or through a group link (as made by `extend`
    when repetitions are unrolled) whose only reference is `a`. -/
def DirectFb (w : World) (a x : Nat) : Prop :=
  (w.lnk (w.op x).link).rel = .fb ∧
  (((w.lnk (w.op x).link).multi = false ∧ (w.lnk (w.op x).link).refs.head? = some a) ∨
   ((w.lnk (w.op x).link).multi = true ∧ (w.lnk (w.op x).link).refs = [a]))

theorem DirectFb.fbStep {w : World} {a x : Nat} (h : DirectFb w a x) : FbStep w a x := by
  refine ⟨h.1, ?_⟩
  rcases h.2 with ⟨h1, h2⟩ | ⟨h1, h2⟩
  · exact Or.inl ⟨h1, h2⟩
  · exact Or.inr ⟨h1, by rw [h2]; exact List.mem_cons_self⟩

theorem DirectFb.of_directRel {w : World} {a x : Nat} (h : DirectRel w .fb a x) : DirectFb w a x :=
  ⟨h.2.2, Or.inl ⟨h.1, h.2.1⟩⟩

theorem direct_fb_start {w : World} {a x : Nat} (h : DirectFb w a x) {sx : Int} (hx : Start w x sx) :
    End w a sx := by
  rcases h.2 with ⟨h1, h2⟩ | ⟨h1, h2⟩
  · obtain ⟨sa, ea, d, _, hea, _, heq⟩ := start_of_direct (rel := .fb) ⟨h1, h2, h.1⟩ hx
    have : sx = ea := by rw [heq]; rfl
    rw [this]; exact hea
  · obtain ⟨d, r, _, hr, hcase⟩ := hx.decompose
    have hra := refV_multi_singleton hr h1 h2
    rcases hcase with ⟨hnone, _⟩ | ⟨r', sr, er, hsome, _, he, heq⟩
    · rw [hnone] at hra; cases hra
    · rw [hsome] at hra
      cases hra
      have : sx = er := by rw [heq, h.1]; rfl
      rw [this]; exact he

/-- `xs = [x₁, x₂, …]` hangs below `a` as a path of single FOLLOWED_BY links: `a ← x₁ ← x₂ ← …`. -/
def FbPath (w : World) : Nat → List Nat → Prop
  | _, [] => True
  | a, x :: xs => DirectFb w a x ∧ FbPath w x xs

def lastOf : Nat → List Nat → Nat
  | a, [] => a
  | _, x :: xs => lastOf x xs

@[simp] theorem lastOf_nil (a : Nat) : lastOf a [] = a := rfl
@[simp] theorem lastOf_cons (a x : Nat) (xs : List Nat) : lastOf a (x :: xs) = lastOf x xs := rfl

theorem lastOf_append_cons (a : Nat) (l1 : List Nat) (x : Nat) (l2 : List Nat) :
    lastOf a (l1 ++ x :: l2) = lastOf x l2 := by
  induction l1 generalizing a with
  | nil => rfl
  | cons y ys ih => exact ih y

theorem lastOf_append_singleton (a : Nat) (xs : List Nat) (z : Nat) : lastOf a (xs ++ [z]) = z :=
  lastOf_append_cons a xs z []

theorem eq_append_lastOf {a : Nat} {xs : List Nat} (h : xs ≠ []) : ∃ pre, xs = pre ++ [lastOf a xs] := by
  induction xs generalizing a with
  | nil => exact absurd rfl h
  | cons x xs ih =>
    cases xs with
    | nil => exact ⟨[], by simp⟩
    | cons y ys =>
      obtain ⟨pre, hpre⟩ := ih (a := x) (by simp)
      refine ⟨x :: pre, ?_⟩
      rw [lastOf_cons, List.cons_append, ← hpre]

theorem lastOf_mem {a : Nat} {xs : List Nat} (h : xs ≠ []) : lastOf a xs ∈ xs := by
  obtain ⟨pre, hpre⟩ := eq_append_lastOf (a := a) h
  have : lastOf a xs ∈ pre ++ [lastOf a xs] := by simp
  rwa [← hpre] at this

theorem lastOf_eq_or_mem (a : Nat) (l : List Nat) : lastOf a l = a ∨ lastOf a l ∈ l := by
  cases l with
  | nil => exact Or.inl rfl
  | cons x xs => exact Or.inr (lastOf_mem (by simp))

theorem split_two {α} {l : List α} {a b : α} (ha : a ∈ l) (hb : b ∈ l) (hab : a ≠ b) :
    (∃ l1 l2 l3, l = l1 ++ a :: (l2 ++ b :: l3)) ∨ (∃ l1 l2 l3, l = l1 ++ b :: (l2 ++ a :: l3)) := by
  obtain ⟨l1, l2, rfl⟩ := List.append_of_mem ha
  rw [List.mem_append, List.mem_cons] at hb
  rcases hb with hb | hb | hb
  · obtain ⟨m1, m2, rfl⟩ := List.append_of_mem hb
    right; exact ⟨m1, m2, l2, by simp⟩
  · exact absurd hb.symm hab
  · obtain ⟨m1, m2, rfl⟩ := List.append_of_mem hb
    left; exact ⟨l1, m1, m2, rfl⟩

theorem FbPath.prefix {w : World} {a : Nat} {l1 l2 : List Nat} (h : FbPath w a (l1 ++ l2)) : FbPath w a l1 := by
  induction l1 generalizing a with
  | nil => trivial
  | cons x xs ih => exact ⟨h.1, ih h.2⟩

theorem FbPath.suffix {w : World} {a : Nat} {l1 l2 : List Nat} (h : FbPath w a (l1 ++ l2)) :
    FbPath w (lastOf a l1) l2 := by
  induction l1 generalizing a with
  | nil => exact h
  | cons x xs ih => rw [lastOf_cons]; exact ih h.2

theorem FbPath.pred {w : World} {a : Nat} {p s : List Nat} {y : Nat} (h : FbPath w a (p ++ y :: s)) :
    DirectFb w (lastOf a p) y := h.suffix.1

theorem FbPath.drop {w : World} {a : Nat} {p s : List Nat} {y : Nat} (h : FbPath w a (p ++ y :: s)) :
    FbPath w y s := h.suffix.2

theorem FbPath.reach {w : World} {a : Nat} {xs : List Nat} (h : FbPath w a xs) {y : Nat} (hy : y ∈ xs) :
    Reach w a y := by
  induction xs generalizing a with
  | nil => cases hy
  | cons x xs ih =>
    cases hy with
    | head => exact .step h.1.fbStep
    | tail _ hy' => exact .head h.1.fbStep (ih h.2 hy')

theorem FbPath.pred_reach {w : World} {a : Nat} {xs : List Nat} (h : FbPath w a xs) {y : Nat} (hy : y ∈ xs) :
    ∃ Q, FbStep w Q y ∧ (Q = a ∨ Reach w a Q) := by
  obtain ⟨p, s, rfl⟩ := List.append_of_mem hy
  exact ⟨lastOf a p, h.pred.fbStep, (lastOf_eq_or_mem a p).imp_right h.prefix.reach⟩

/-! A path of a layer is given with its first operation, `x :: xs` with `FbPath w x xs`. -/

theorem cons_path_drop {w : World} {x : Nat} {xs : List Nat} (h : FbPath w x xs) {l1 l2 : List Nat} {u : Nat}
    (hsplit : x :: xs = l1 ++ u :: l2) : FbPath w u l2 := by
  cases l1 with
  | nil =>
    simp only [List.nil_append, List.cons.injEq] at hsplit
    obtain ⟨rfl, rfl⟩ := hsplit
    exact h
  | cons z l1 =>
    simp only [List.cons_append, List.cons.injEq] at hsplit
    obtain ⟨rfl, rfl⟩ := hsplit
    exact h.drop

theorem cons_path_two {w : World} {x : Nat} {xs : List Nat} (h : FbPath w x xs) {u v : Nat} (hu : u ∈ x :: xs)
    (hv : v ∈ x :: xs) (huv : u ≠ v) :
    (∃ l2 l3, FbPath w u (l2 ++ v :: l3)) ∨ (∃ l2 l3, FbPath w v (l2 ++ u :: l3)) := by
  rcases split_two hu hv huv with ⟨l1, l2, l3, hs⟩ | ⟨l1, l2, l3, hs⟩
  · exact Or.inl ⟨l2, l3, cons_path_drop h hs⟩
  · exact Or.inr ⟨l2, l3, cons_path_drop h hs⟩

theorem cons_path_reach_last {w : World} {x : Nat} {xs : List Nat} (h : FbPath w x xs) {y : Nat}
    (hy : y ∈ x :: xs) : lastOf x xs = y ∨ Reach w y (lastOf x xs) := by
  obtain ⟨l1, l2, hs⟩ := List.append_of_mem hy
  have hl : lastOf x xs = lastOf y l2 := by
    have := lastOf_append_cons 0 l1 y l2
    rw [← hs] at this
    exact this
  rw [hl]
  exact (lastOf_eq_or_mem y l2).imp_right (cons_path_drop h hs).reach

def PathDur (w : World) : List Nat → Int → Prop
  | [], D => D = 0
  | x :: xs, D => ∃ d D', DurV w x d ∧ PathDur w xs D' ∧ D = d + D'

theorem PathDur.unique {w : World} {xs : List Nat} {D D' : Int} (h : PathDur w xs D) (h' : PathDur w xs D') :
    D = D' := by
  induction xs generalizing D D' with
  | nil => simp only [PathDur] at h h'; omega
  | cons x xs ih =>
    obtain ⟨d, E, hd, hE, rfl⟩ := h
    obtain ⟨d', E', hd', hE', rfl⟩ := h'
    rw [hd.unique hd', ih hE hE']

theorem pathDur_append {w : World} {l1 l2 : List Nat} {D : Int} :
    PathDur w (l1 ++ l2) D ↔ ∃ D1 D2, PathDur w l1 D1 ∧ PathDur w l2 D2 ∧ D = D1 + D2 := by
  induction l1 generalizing D with
  | nil =>
    constructor
    · intro h; exact ⟨0, D, rfl, h, by omega⟩
    · rintro ⟨D1, D2, h1, h2, rfl⟩
      simp only [PathDur] at h1
      subst h1
      simpa using h2
  | cons x xs ih =>
    constructor
    · rintro ⟨d, E, hd, hE, rfl⟩
      obtain ⟨D1, D2, h1, h2, rfl⟩ := ih.mp hE
      exact ⟨d + D1, D2, ⟨d, D1, hd, h1, rfl⟩, h2, by omega⟩
    · rintro ⟨D1, D2, ⟨d, E, hd, hE, rfl⟩, h2, rfl⟩
      exact ⟨d, E + D2, hd, ih.mpr ⟨E, D2, hE, h2, rfl⟩, by omega⟩

theorem PathDur.nonneg {w : World} (hd : LeafDurNonneg w) {xs : List Nat} {D : Int} (h : PathDur w xs D) :
    0 ≤ D := by
  induction xs generalizing D with
  | nil => simp only [PathDur] at h; omega
  | cons x xs ih =>
    obtain ⟨d, E, hd', hE, rfl⟩ := h
    have := dur_nonneg hd hd'
    have := ih hE
    omega

theorem pathDur_singleton {w : World} {x : Nat} {d : Int} : PathDur w [x] d ↔ DurV w x d := by
  constructor
  · rintro ⟨d', E, hd, hE, rfl⟩
    simp only [PathDur] at hE
    subst hE
    simpa using hd
  · intro h; exact ⟨d, 0, h, rfl, by omega⟩

theorem fbPath_times {w : World} : ∀ (pre : List Nat) (a y : Nat), FbPath w a (pre ++ [y]) →
    ∀ sy, Start w y sy → ∃ ea D, End w a ea ∧ PathDur w pre D ∧ sy = ea + D := by
  intro pre
  induction pre with
  | nil =>
    intro a y h sy hsy
    exact ⟨sy, 0, direct_fb_start h.1 hsy, rfl, by omega⟩
  | cons x pre ih =>
    intro a y h sy hsy
    obtain ⟨ex, D', hex, hD', rfl⟩ := ih x y h.2 sy hsy
    obtain ⟨sx, dx, hsx, hdx, rfl⟩ := hex.decompose
    exact ⟨sx, dx + D', direct_fb_start h.1 hsx, ⟨dx, D', hdx, hD', rfl⟩, by omega⟩

/-- a path whose first element starts at the time `t0` (the time origin of a layer). -/
def ChainAt (w : World) (t0 : Int) : List Nat → Prop
  | [] => True
  | x :: xs => (∀ s, Start w x s → s = t0) ∧ FbPath w x xs

theorem FbPath.chainAt {w : World} {b : Nat} {c : List Nat} (h : FbPath w b c) {e : Int} (he : End w b e) :
    ChainAt w e c := by
  cases c with
  | nil => trivial
  | cons x xs =>
    refine ⟨?_, h.2⟩
    intro s hs
    exact (direct_fb_start h.1 hs).unique he

theorem chainAt_start {w : World} {t0 : Int} {pre suf : List Nat} {y : Nat}
    (h : ChainAt w t0 (pre ++ y :: suf)) {sy : Int} (hsy : Start w y sy) :
    ∃ D, PathDur w pre D ∧ sy = t0 + D := by
  cases pre with
  | nil => exact ⟨0, rfl, by have := h.1 sy hsy; omega⟩
  | cons x pre =>
    have hp : FbPath w x (pre ++ [y] ++ suf) := List.append_cons pre y suf ▸ h.2
    obtain ⟨ex, D', hex, hD', rfl⟩ := fbPath_times pre x y hp.prefix sy hsy
    obtain ⟨sx, dx, hsx, hdx, rfl⟩ := hex.decompose
    have := h.1 sx hsx
    exact ⟨dx + D', ⟨dx, D', hdx, hD', rfl⟩, by omega⟩

theorem chainAt_end {w : World} {t0 : Int} {pre suf : List Nat} {y : Nat}
    (h : ChainAt w t0 (pre ++ y :: suf)) {ey : Int} (hey : End w y ey) :
    ∃ D, PathDur w (pre ++ [y]) D ∧ ey = t0 + D := by
  obtain ⟨sy, dy, hsy, hdy, rfl⟩ := hey.decompose
  obtain ⟨D, hD, rfl⟩ := chainAt_start h hsy
  exact ⟨D + dy, pathDur_append.mpr ⟨D, dy, hD, pathDur_singleton.mpr hdy, rfl⟩, by omega⟩

theorem chain_head_defined {w : World} {x : Nat} {xs : List Nat} (h : FbPath w x xs) {y : Nat}
    (hy : y ∈ x :: xs) {sy : Int} (hsy : Start w y sy) : ∃ sx, Start w x sx := by
  cases hy with
  | head => exact ⟨sy, hsy⟩
  | tail _ hy' =>
    obtain ⟨ex, hex⟩ := (h.reach hy').end_defined hsy
    obtain ⟨sx, _, hsx, _, _⟩ := hex.decompose
    exact ⟨sx, hsx⟩

/-- the path `main` is (one of) the last to end: every prefix of every path of the layer is at most as long
    (in time) as `main`, whenever both durations are defined. -/
def Dominated (w : World) (chains : List (List Nat)) (main : List Nat) : Prop :=
  ∀ c ∈ chains, ∀ pre suf, c = pre ++ suf → ∀ D Dm, PathDur w pre D → PathDur w main Dm → D ≤ Dm

theorem layerAt_le {w : World} {t0 : Int} {chains : List (List Nat)} {main : List Nat}
    (hch : ∀ c ∈ chains, ChainAt w t0 c) (hdom : Dominated w chains main)
    {c : List Nat} (hc : c ∈ chains) {y : Nat} (hy : y ∈ c) {ey : Int} (hey : End w y ey)
    {Dm : Int} (hDm : PathDur w main Dm) : ey ≤ t0 + Dm := by
  obtain ⟨pre, suf, rfl⟩ := List.append_of_mem hy
  obtain ⟨D, hD, rfl⟩ := chainAt_end (hch _ hc) hey
  have := hdom _ hc (pre ++ [y]) suf (by simp) D Dm hD hDm
  omega

theorem main_end {w : World} {t0 : Int} {main : List Nat} (hm : ChainAt w t0 main) (hne : main ≠ []) {a : Nat}
    {em : Int} (hem : End w (lastOf a main) em) : ∃ Dm, PathDur w main Dm ∧ em = t0 + Dm := by
  obtain ⟨pre, hpre⟩ := eq_append_lastOf (a := a) hne
  rw [hpre] at hm
  obtain ⟨D, hD, rfl⟩ := chainAt_end (suf := []) hm hem
  exact ⟨D, by rw [hpre]; exact hD, rfl⟩

/-- paths of one layer and the path below whose last operation the next layer hangs. -/
structure LayerData where
  chains : List (List Nat)
  main : List Nat
  deriving Repr, Inhabited, DecidableEq

structure LayerCore (w : World) (L : LayerData) : Prop where
  internal : ∀ c ∈ L.chains, ∀ x xs, c = x :: xs → FbPath w x xs
  sync : ∀ c ∈ L.chains, ∀ c' ∈ L.chains, ∀ x xs x' xs', c = x :: xs → c' = x' :: xs' →
    ∀ s s', Start w x s → Start w x' s' → s = s'
  main_ne : L.main ≠ []
  main_mem : L.main ∈ L.chains
  dom : Dominated w L.chains L.main

theorem LayerCore.chainAt {w : World} {L : LayerData} (hL : LayerCore w L) {c : List Nat} (hc : c ∈ L.chains)
    {x : Nat} {xs : List Nat} (hcx : c = x :: xs) {t0 : Int} (ht0 : Start w x t0) :
    ∀ c' ∈ L.chains, ChainAt w t0 c' := by
  intro c' hc'
  cases c' with
  | nil => trivial
  | cons x' xs' =>
    exact ⟨fun s hs => hL.sync _ hc' _ hc x' xs' x xs rfl hcx s t0 hs ht0, hL.internal _ hc' x' xs' rfl⟩

theorem core_before_next {w : World} {L : LayerData} (hL : LayerCore w L) {a : Nat}
    {c : List Nat} (hc : c ∈ L.chains) {y : Nat} (hy : y ∈ c) {ey : Int} (hey : End w y ey)
    {em : Int} (hem : End w (lastOf a L.main) em) : ey ≤ em := by
  cases c with
  | nil => cases hy
  | cons x xs =>
    obtain ⟨sy, _, hsy, _, _⟩ := hey.decompose
    obtain ⟨t0, ht0⟩ := chain_head_defined (hL.internal _ hc x xs rfl) hy hsy
    have hch := hL.chainAt hc rfl ht0
    obtain ⟨Dm, hDm, rfl⟩ := main_end (hch _ hL.main_mem) hL.main_ne hem
    exact layerAt_le hch hL.dom hc hy hey hDm

theorem LayerCore.two {w : World} {L : LayerData} (hL : LayerCore w L) {c : List Nat} (hc : c ∈ L.chains)
    {u v : Nat} (hu : u ∈ c) (hv : v ∈ c) (huv : u ≠ v) :
    (∃ l2 l3, FbPath w u (l2 ++ v :: l3)) ∨ (∃ l2 l3, FbPath w v (l2 ++ u :: l3)) := by
  cases c with
  | nil => cases hu
  | cons x xs => exact cons_path_two (hL.internal _ hc x xs rfl) hu hv huv

theorem core_path_ordered {w : World} (hd : LeafDurNonneg w) {L : LayerData} (hL : LayerCore w L)
    {c : List Nat} (hc : c ∈ L.chains) {u v : Nat} (hu : u ∈ c) (hv : v ∈ c) (huv : u ≠ v) :
    Before w u v ∨ Before w v u :=
  (hL.two hc hu hv huv).imp (fun ⟨_, _, h⟩ => (h.reach (by simp)).before hd)
    (fun ⟨_, _, h⟩ => (h.reach (by simp)).before hd)

theorem core_main_last_mem {L : LayerData} {w : World} (hL : LayerCore w L) (a : Nat) :
    lastOf a L.main ∈ L.main := lastOf_mem hL.main_ne

/-- A layer opened by operation `b`: the first operations of the paths are FOLLOWED_BY-linked to `b`, all of them
    with exactly the one reference `b`, or all of them through one common link object that names `b` (the group link
    `extend` gives to an appended copy).  `main` is empty only when there are no paths at all. -/
structure LayerOk (w : World) (b : Nat) (L : LayerData) : Prop where
  internal : ∀ c ∈ L.chains, ∀ x xs, c = x :: xs → FbPath w x xs
  step : ∀ c ∈ L.chains, ∀ x xs, c = x :: xs → FbStep w b x
  sync : (∀ c ∈ L.chains, ∀ x xs, c = x :: xs → DirectFb w b x) ∨
    (∀ c ∈ L.chains, ∀ c' ∈ L.chains, ∀ x xs x' xs', c = x :: xs → c' = x' :: xs' →
      (w.op x).link = (w.op x').link)
  main_ok : (L.main = [] ∧ L.chains = []) ∨ (L.main ≠ [] ∧ L.main ∈ L.chains)
  dom : Dominated w L.chains L.main

/-- the operation the next layer hangs below. -/
def LayerData.next (L : LayerData) (b : Nat) : Nat := lastOf b L.main

theorem LayerOk.core {w : World} {b : Nat} {L : LayerData} (hL : LayerOk w b L) (hne : L.main ≠ [])
    (hmem : L.main ∈ L.chains) : LayerCore w L where
  internal := hL.internal
  sync := by
    intro c hc c' hc' x xs x' xs' hcx hcx' s s' hs hs'
    rcases hL.sync with h | h
    · exact (direct_fb_start (h c hc x xs hcx) hs).unique (direct_fb_start (h c' hc' x' xs' hcx') hs')
    · have hje : (w.lnk (w.op x').link).rel ≠ .je := by
        rw [(hL.step c' hc' x' xs' hcx').1]; decide
      exact same_link_same_start (h c hc c' hc' x xs x' xs' hcx hcx') hje hs hs'
  main_ne := hne
  main_mem := hmem
  dom := hL.dom

theorem LayerOk.pred {w : World} {b : Nat} {L : LayerData} (hL : LayerOk w b L) {c : List Nat}
    (hc : c ∈ L.chains) {y : Nat} (hy : y ∈ c) : ∃ Q, FbStep w Q y ∧ (Q = b ∨ Reach w b Q) := by
  cases c with
  | nil => cases hy
  | cons x xs =>
    have h1 := hL.step _ hc x xs rfl
    cases hy with
    | head => exact ⟨b, h1, Or.inl rfl⟩
    | tail _ hy' =>
      obtain ⟨Q, hQ, hr⟩ := (hL.internal _ hc x xs rfl).pred_reach hy'
      exact ⟨Q, hQ, Reach.or_trans (Or.inr (.step h1)) hr⟩

theorem LayerOk.reach {w : World} {b : Nat} {L : LayerData} (hL : LayerOk w b L) {c : List Nat}
    (hc : c ∈ L.chains) {y : Nat} (hy : y ∈ c) : Reach w b y :=
  Reach.of_pred (hL.pred hc hy)

theorem LayerOk.core_of_mem {w : World} {b : Nat} {L : LayerData} (hL : LayerOk w b L) {c : List Nat}
    (hc : c ∈ L.chains) : LayerCore w L := by
  rcases hL.main_ok with ⟨_, hnil⟩ | ⟨hne, hmem⟩
  · rw [hnil] at hc; cases hc
  · exact hL.core hne hmem

theorem layer_before_next {w : World} {b : Nat} {L : LayerData} (hL : LayerOk w b L)
    {c : List Nat} (hc : c ∈ L.chains) {y : Nat} (hy : y ∈ c) {ey : Int} (hey : End w y ey)
    {em : Int} (hem : End w (L.next b) em) : ey ≤ em :=
  core_before_next (hL.core_of_mem hc) hc hy hey hem

/-- Whatever is FOLLOWED_BY the last operation of the dominating path (the closing barrier of a layer) starts after
    every operation of the layer has ended — although it is linked to one path only. -/
theorem layer_closed {w : World} {b : Nat} {L : LayerData} (hL : LayerOk w b L) {close : Nat}
    (hclose : FbStep w (L.next b) close) {c : List Nat} (hc : c ∈ L.chains) {y : Nat} (hy : y ∈ c) {ey sc : Int}
    (hey : End w y ey) (hsc : Start w close sc) : ey ≤ sc := by
  obtain ⟨em, hem, hle⟩ := fbStep_end_le_start hclose hsc
  have := layer_before_next hL hc hy hey hem
  omega

def Layers (w : World) : Nat → List LayerData → Prop
  | _, [] => True
  | b, L :: rest => LayerOk w b L ∧ Layers w (L.next b) rest

def layerOps : List LayerData → List Nat
  | [] => []
  | L :: rest => L.chains.flatten ++ layerOps rest

def DiffChains (Ls : List LayerData) (a b : Nat) : Prop :=
  ∃ L ∈ Ls, ∃ c ∈ L.chains, ∃ c' ∈ L.chains, c ≠ c' ∧ a ∈ c ∧ b ∈ c'

theorem DiffChains.symm {Ls : List LayerData} {a b : Nat} (h : DiffChains Ls a b) : DiffChains Ls b a := by
  obtain ⟨L, hL, c, hc, c', hc', hne, ha, hb⟩ := h
  exact ⟨L, hL, c', hc', c, hc, Ne.symm hne, hb, ha⟩

theorem DiffChains.cons {Ls : List LayerData} {L : LayerData} {a b : Nat} (h : DiffChains Ls a b) :
    DiffChains (L :: Ls) a b := by
  obtain ⟨L', hL', rest⟩ := h
  exact ⟨L', List.mem_cons_of_mem _ hL', rest⟩

theorem next_reach {w : World} {b : Nat} {L : LayerData} (hL : LayerOk w b L) :
    L.next b = b ∨ Reach w b (L.next b) := by
  rcases hL.main_ok with ⟨hnil, _⟩ | ⟨hne, hmem⟩
  · left; simp [LayerData.next, hnil]
  · right; exact hL.reach hmem (lastOf_mem hne)

theorem layers_pred {w : World} : ∀ (Ls : List LayerData) (b : Nat), Layers w b Ls →
    ∀ z ∈ layerOps Ls, ∃ Q, FbStep w Q z ∧ (Q = b ∨ Reach w b Q) := by
  intro Ls
  induction Ls with
  | nil => intro b _ z hz; cases hz
  | cons L rest ih =>
    intro b h z hz
    simp only [layerOps, List.mem_append, List.mem_flatten] at hz
    rcases hz with ⟨c, hc, hzc⟩ | hz
    · exact h.1.pred hc hzc
    · obtain ⟨Q, hQ, hr⟩ := ih _ h.2 z hz
      exact ⟨Q, hQ, Reach.or_trans (next_reach h.1) hr⟩

theorem layers_reach {w : World} (Ls : List LayerData) (b : Nat) (h : Layers w b Ls) (z : Nat)
    (hz : z ∈ layerOps Ls) : Reach w b z :=
  Reach.of_pred (layers_pred Ls b h z hz)

/-- The case analysis behind every statement about two operations `x`, `y` of a block of layers: both on one path of
    the first layer, on two different paths of it, one in the first layer and one below it, or both below it. -/
theorem layerOps_cons_cases {R : Nat → Nat → Prop} {L : LayerData} {rest : List LayerData}
    (hpath : ∀ c ∈ L.chains, ∀ u ∈ c, ∀ v ∈ c, u ≠ v → R u v ∨ R v u)
    (hlater : ∀ c ∈ L.chains, ∀ u ∈ c, ∀ z ∈ layerOps rest, R u z)
    (hrest : ∀ x ∈ layerOps rest, ∀ y ∈ layerOps rest, x ≠ y → R x y ∨ R y x ∨ DiffChains rest x y) :
    ∀ x ∈ layerOps (L :: rest), ∀ y ∈ layerOps (L :: rest), x ≠ y →
      R x y ∨ R y x ∨ DiffChains (L :: rest) x y := by
  intro x hx y hy hxy
  simp only [layerOps, List.mem_append, List.mem_flatten] at hx hy
  rcases hx with ⟨c, hc, hxc⟩ | hx
  · rcases hy with ⟨c', hc', hyc'⟩ | hy
    · by_cases hcc : c = c'
      · subst hcc
        exact (hpath c hc x hxc y hyc' hxy).imp_right Or.inl
      · exact Or.inr (Or.inr ⟨L, List.mem_cons_self, c, hc, c', hc', hcc, hxc, hyc'⟩)
    · exact Or.inl (hlater c hc x hxc y hy)
  · rcases hy with ⟨c', hc', hyc'⟩ | hy
    · exact Or.inr (Or.inl (hlater c' hc' y hyc' x hx))
    · exact (hrest x hx y hy hxy).imp_right (Or.imp_right DiffChains.cons)

/-- The later operation hangs below the last operation of the dominating path. -/
theorem core_before_later {w : World} (hd : LeafDurNonneg w) {L : LayerData} {rest : List LayerData} {a : Nat}
    (hL : LayerCore w L) (hrest : Layers w (lastOf a L.main) rest) {c : List Nat} (hc : c ∈ L.chains) {y : Nat}
    (hy : y ∈ c) {z : Nat} (hz : z ∈ layerOps rest) : Before w y z := by
  intro ey sz hey hsz
  have hr := layers_reach rest _ hrest z hz
  obtain ⟨em, hem⟩ := hr.end_defined hsz
  have h1 := core_before_next hL hc hy hey hem
  have h2 := hr.before hd em sz hem hsz
  omega

theorem layers_ordered {w : World} (hd : LeafDurNonneg w) : ∀ (Ls : List LayerData) (b : Nat), Layers w b Ls →
    ∀ x ∈ layerOps Ls, ∀ y ∈ layerOps Ls, x ≠ y → Before w x y ∨ Before w y x ∨ DiffChains Ls x y := by
  intro Ls
  induction Ls with
  | nil => intro b _ x hx; cases hx
  | cons L rest ih =>
    intro b h
    exact layerOps_cons_cases
      (fun _ hc _ hu _ hv huv => core_path_ordered hd (h.1.core_of_mem hc) hc hu hv huv)
      (fun _ hc _ hu _ hz => core_before_later hd (h.1.core_of_mem hc) h.2 hc hu hz) (ih _ h.2)

theorem opener_before {w : World} (hd : LeafDurNonneg w) {Ls : List LayerData} {b : Nat} (h : Layers w b Ls)
    {z : Nat} (hz : z ∈ layerOps Ls) : Before w b z :=
  (layers_reach Ls b h z hz).before hd

/-- The first layer only needs paths that start together (`LayerCore`): e.g. the first operations of a
    sub-circuit, which carry the sub-circuit's link; or the paths below a barrier. -/
theorem block_ordered {w : World} (hd : LeafDurNonneg w) {L : LayerData} {rest : List LayerData} {a : Nat}
    (hL : LayerCore w L) (hrest : Layers w (lastOf a L.main) rest) :
    ∀ x ∈ layerOps (L :: rest), ∀ y ∈ layerOps (L :: rest), x ≠ y →
      Before w x y ∨ Before w y x ∨ DiffChains (L :: rest) x y :=
  layerOps_cons_cases (fun _ hc _ hu _ hv huv => core_path_ordered hd hL hc hu hv huv)
    (fun _ hc _ hu _ hz => core_before_later hd hL hrest hc hu hz) (layers_ordered hd rest _ hrest)

/-- The first layer of a block: the first operations of all paths carry one common link object (what the listing
    establishes for the first operations of a sub-circuit; what `extend` establishes for an appended copy). -/
structure HeadLayerOk (w : World) (L : LayerData) : Prop where
  internal : ∀ c ∈ L.chains, ∀ x xs, c = x :: xs → FbPath w x xs
  link : ∀ c ∈ L.chains, ∀ c' ∈ L.chains, ∀ x xs x' xs', c = x :: xs → c' = x' :: xs' →
    (w.op x).link = (w.op x').link
  notJe : ∀ c ∈ L.chains, ∀ x xs, c = x :: xs → (w.lnk (w.op x).link).rel ≠ .je
  main_ne : L.main ≠ []
  main_mem : L.main ∈ L.chains
  dom : Dominated w L.chains L.main

theorem HeadLayerOk.core {w : World} {L : LayerData} (hL : HeadLayerOk w L) : LayerCore w L where
  internal := hL.internal
  sync := by
    intro c hc c' hc' x xs x' xs' hcx hcx' s s' hs hs'
    exact same_link_same_start (hL.link c hc c' hc' x xs x' xs' hcx hcx') (hL.notJe c' hc' x' xs' hcx') hs hs'
  main_ne := hL.main_ne
  main_mem := hL.main_mem
  dom := hL.dom

def durSum (w : World) : List Nat → Int
  | [] => 0
  | x :: xs => w.leafDur (w.op x).dur + durSum w xs

theorem durSum_append (w : World) (l1 l2 : List Nat) : durSum w (l1 ++ l2) = durSum w l1 + durSum w l2 := by
  induction l1 with
  | nil => simp [durSum]
  | cons x xs ih => simp only [List.cons_append, durSum, ih]; omega

theorem durSum_nonneg {w : World} (hd : LeafDurNonneg w) {l : List Nat} (hl : ∀ x ∈ l, (w.op x).isComp = false) :
    0 ≤ durSum w l := by
  induction l with
  | nil => simp [durSum]
  | cons x xs ih =>
    have h1 := hd x (hl x List.mem_cons_self)
    have h2 := ih (fun y hy => hl y (List.mem_cons_of_mem _ hy))
    simp only [durSum]; omega

theorem pathDur_leaves {w : World} {l : List Nat} (hl : ∀ x ∈ l, (w.op x).isComp = false) :
    PathDur w l (durSum w l) := by
  induction l with
  | nil => rfl
  | cons x xs ih =>
    exact ⟨_, _, durV_leaf (hl x List.mem_cons_self), ih (fun y hy => hl y (List.mem_cons_of_mem _ hy)), rfl⟩

def durs (w : World) (c : List Nat) : List Dur := c.map (fun x => (w.op x).dur)

theorem durSum_eq_map (w : World) (c : List Nat) : durSum w c = ((durs w c).map w.leafDur).sum := by
  induction c with
  | nil => rfl
  | cons x xs ih => simp only [durSum, durs, List.map_cons, List.sum_cons, ih]

/-- For paths of leaf operations dominance is an inequality between sums of leaf durations, read off the duration
    strategies along the paths: a prefix of a path is at most as long as the whole path (durations are
    non-negative), and the whole path at most as long as `main`. -/
theorem dominated_of_sums {w : World} (hd : LeafDurNonneg w) {chains : List (List Nat)} {main : List Nat}
    (hleaf : ∀ c ∈ chains, ∀ x ∈ c, (w.op x).isComp = false) (hmain : ∀ x ∈ main, (w.op x).isComp = false)
    (hle : ∀ c ∈ chains, ((durs w c).map w.leafDur).sum ≤ ((durs w main).map w.leafDur).sum) :
    Dominated w chains main := by
  intro c hc pre suf hsplit D Dm hD hDm
  have hpre : ∀ x ∈ pre, (w.op x).isComp = false := fun x hx => hleaf c hc x (by rw [hsplit]; simp [hx])
  have hsuf : ∀ x ∈ suf, (w.op x).isComp = false := fun x hx => hleaf c hc x (by rw [hsplit]; simp [hx])
  have h1 := hD.unique (pathDur_leaves hpre)
  have h2 := hDm.unique (pathDur_leaves hmain)
  have h3 := hle c hc
  rw [← durSum_eq_map, ← durSum_eq_map, hsplit, durSum_append] at h3
  have h4 := durSum_nonneg hd hsuf
  omega

/-- **Uniform layer** (all Ry90 / all CPhase and parking / all virtual phases / reset – measurement per qubit …):
    every path carries the same sequence of duration strategies as `main`.  Dominated for all durations. -/
theorem dominated_uniform {w : World} (hd : LeafDurNonneg w) {chains : List (List Nat)} {main : List Nat}
    (hleaf : ∀ c ∈ chains, ∀ x ∈ c, (w.op x).isComp = false) (hmain : ∀ x ∈ main, (w.op x).isComp = false)
    (h : ∀ c ∈ chains, durs w c = durs w main) : Dominated w chains main :=
  dominated_of_sums hd hleaf hmain (fun c hc => by rw [h c hc]; exact Int.le_refl _)

/-- a measurement is at most as long as wait – pulse – wait: the decoupling wait is half of readout − microwave (or
    0 when the pulse is the longer one). -/
theorem readout_le_refocus (w : World) (heven : w.gMw ≤ w.gRo → (w.gRo - w.gMw) % 2 = 0) :
    w.leafDur (.glob .ro) ≤ w.leafDur .decoupling + (w.leafDur (.glob .mw) + w.leafDur .decoupling) := by
  simp only [World.leafDur, World.gdur]
  omega

/-- **Refocusing layer** of a QEC round with dynamical decoupling: every path is a measurement (readout duration) or
    wait – pulse – wait (decoupling wait, microwave duration, decoupling wait) and `main` is of the second kind.
    Dominated for every number of paths and all non-negative durations (readout − microwave even when non-negative:
    the decoupling wait is half the difference). -/
theorem dominated_refocus {w : World} (hd : LeafDurNonneg w) {chains : List (List Nat)} {main : List Nat}
    (hleaf : ∀ c ∈ chains, ∀ x ∈ c, (w.op x).isComp = false) (hmainleaf : ∀ x ∈ main, (w.op x).isComp = false)
    (hmain : durs w main = [.decoupling, .glob .mw, .decoupling])
    (h : ∀ c ∈ chains, durs w c = [.glob .ro] ∨ durs w c = durs w main)
    (heven : w.gMw ≤ w.gRo → (w.gRo - w.gMw) % 2 = 0) : Dominated w chains main := by
  apply dominated_of_sums hd hleaf hmainleaf
  intro c hc
  rcases h c hc with h1 | h1
  · rw [h1, hmain]
    have := readout_le_refocus w heven
    simp only [List.map_cons, List.map_nil, List.sum_cons, List.sum_nil]
    omega
  · rw [h1]; exact Int.le_refl _

theorem contents_flat {w : World} {c : Nat} (h : ∀ e ∈ (w.op c).graph, (w.op e.node).isComp = false) (f : Nat) :
    contents w (f + 1) c = (w.op c).graph.map (·.node) := by
  show ((w.op c).graph.flatMap (fun e => if (w.op e.node).isComp then contents w f e.node else [e.node])) = _
  generalize (w.op c).graph = g at h
  induction g with
  | nil => rfl
  | cons e es ih =>
    simp only [List.flatMap_cons, List.map_cons]
    rw [h e List.mem_cons_self, ih (fun e' he' => h e' (List.mem_cons_of_mem _ he'))]
    rfl

/-- The paths of one layer belong to different qubits. -/
def Separated (w : World) (Ls : List LayerData) : Prop :=
  ∀ L ∈ Ls, ∀ c ∈ L.chains, ∀ c' ∈ L.chains, c ≠ c' → ∀ x ∈ c, ∀ y ∈ c', sharesChannel (w.op x) (w.op y) = false

/-- **No double booking of a layered block** — for every number of paths (qubits), path lengths and layers and all
    non-negative durations: if the operations below `c` are those of a block of layers (`LayerCore` first layer,
    `Layers` below it) whose paths within one layer share no channel, then no two distinct channel-sharing
    operations of `c` overlap (`C10.NoDoubleBooking`, the predicate of the library clause). -/
theorem block_no_double_booking {w : World} (hd : LeafDurNonneg w) {L : LayerData} {rest : List LayerData} {a c : Nat}
    (hL : LayerCore w L) (hrest : Layers w (lastOf a L.main) rest)
    (hcont : ∀ x ∈ contents w (w.ops.size + 2) c, x ∈ layerOps (L :: rest))
    (hsep : Separated w (L :: rest)) : NoDoubleBooking w c := by
  intro x hx y hy hxy hsh sx ex sy ey hsx hex hsy hey _
  rcases block_ordered hd hL hrest x (hcont x hx) y (hcont y hy) hxy with h | h | h
  · have := h ex sy hex hsy; omega
  · have := h ey sx hey hsx; omega
  · obtain ⟨L', hL', c1, hc1, c2, hc2, hne, hx1, hy2⟩ := h
    rw [hsep L' hL' c1 hc1 c2 hc2 hne x hx1 y hy2] at hsh
    cases hsh

end Qco.C10Param
