import QcoVerif.Lemmas.PyBridge
import QcoVerif.Model.Timing
/-
  Source tie of `CircuitCompositeOperation._lead_and_span` (structure/intrf_circuit_operation_composite.py; C04): the loop with
  running minimum/maximum from ±infinity computes the model's `leadSpan`.  Core Lean only.
-/
namespace Qco.SpanSrc
open Qco Qco.Py Qco.Gen.PySrc

/-- a node of the block: identity, composite?, (lead, span) of its operation, start time its link reports. -/
structure SNode where
  id : Nat
  comp : Bool
  lead : Int
  span : Int
  start : Int

def spanOp (n : SNode) : Val :=
  if n.comp then
    .obj "CircuitCompositeOperation" n.id
      [("_lead_and_span()", .tuple [.int n.lead, .int n.span]),
       ("relation_link", .obj "Link" (3000 + n.id) [("get_start_time()", .int n.start)])]
  else
    .obj "Operation" n.id
      [("duration", .int n.span), ("relation_link", .obj "Link" (3000 + n.id) [("get_start_time()", .int n.start)])]

def spanNode (n : SNode) : Val := .obj "Node" (1000 + n.id) [("operation", spanOp n)]

/-- `isinstance(op, CircuitCompositeOperation)` by class name; other pure queries from pseudo-fields. -/
def spanEnv : Env :=
  { func := fun f args => match f, args with
      | "isinstance", [.obj c _ _, .str want] => some (.bool (c == want))
      | _, _ => Option.none
    method := fun recv m _ => match recv with | .obj _ _ fs => lookupField fs (m ++ "()") | _ => Option.none }

@[py_eval] theorem spanEnv_method (c : String) (i : Nat) (fs : List (String × Val)) (m : String) (args : List Val) :
    spanEnv.method (.obj c i fs) m args = lookupField fs (m ++ "()") := rfl

@[py_eval] theorem spanEnv_isinstance (c want : String) (i : Nat) (fs : List (String × Val)) :
    spanEnv.func "isinstance" [.obj c i fs, .str want] = some (.bool (c == want)) := rfl

/-- lead of a leaf is 0 (the source's `0.0, operation.duration`). -/
def SNode.leadEff (n : SNode) : Int := if n.comp then n.lead else 0

def spanSelf (nodes : List SNode) (heads : List Nat) : Val :=
  .obj "CircuitCompositeOperation" 1
    [("empty_composite", .bool nodes.isEmpty),
     ("_circuit_graph", .obj "Graph" 2
        [("get_nodes_at()", .list ((nodes.filter (fun n => heads.contains n.id)).map spanNode)),
         ("get_node_iterator()", .list (nodes.map spanNode))])]

/-- running value: `none` = still ±infinity. -/
def optInf (neg : Bool) : Option Int → Val
  | none => .enum "float" (if neg then "-inf" else "inf")
  | some i => .int i

def rmin (acc : Option Int) (x : Int) : Option Int :=
  some (match acc with | none => x | some a => if x < a then x else a)
def rmax (acc : Option Int) (x : Int) : Option Int :=
  some (match acc with | none => x | some a => if x > a then x else a)

theorem rmin_fold (l : List Int) (a : Int) : l.foldl rmin (some a) = some (l.foldl (fun m y => if y < m then y else m) a) := by
  induction l generalizing a with
  | nil => rfl
  | cons x xs ih => simp only [List.foldl_cons, rmin]; exact ih _

theorem rmax_fold (l : List Int) (a : Int) : l.foldl rmax (some a) = some (l.foldl (fun m y => if y > m then y else m) a) := by
  induction l generalizing a with
  | nil => rfl
  | cons x xs ih => simp only [List.foldl_cons, rmax]; exact ih _

theorem rmin_minOf (x : Int) (xs : List Int) : (x :: xs).foldl rmin none = some (minOf (x :: xs)) := by
  simp only [List.foldl_cons, rmin, minOf]; exact rmin_fold xs x

theorem rmax_maxOf (x : Int) (xs : List Int) : (x :: xs).foldl rmax none = some (maxOf (x :: xs)) := by
  simp only [List.foldl_cons, rmax, maxOf]; exact rmax_fold xs x

/-- the body of the loop (an `abbrev`: see `BuilderSrc.decBody`). -/
abbrev spanBody : List Stmt :=
  [.assign "operation" (.attr (.name "node") "operation"),
   .ifs (.call "isinstance" [.name "operation", .str "CircuitCompositeOperation"])
     [.assignTuple ["lead", "span"] (.mcall (.name "operation") "_lead_and_span" [])]
     [.assignTuple ["lead", "span"] (.tuple [.flt 0 1, .attr (.name "operation") "duration"])],
   .assign "start_time" (.mcall (.attr (.name "operation") "relation_link") "get_start_time" [.name "span"]),
   .ifs (.call "any" [.comp (.cmp .is_ (.name "node") (.name "head_node")) "head_node" (.name "head_nodes")])
     [.assign "head_start_time" (.call "min" [.name "head_start_time", .name "start_time"])] [],
   .assign "earliest_start_time" (.call "min" [.name "earliest_start_time", .bin .sub (.name "start_time") (.name "lead")]),
   .assign "latest_end_time" (.call "max" [.name "latest_end_time",
      .bin .add (.bin .sub (.name "start_time") (.name "lead")) (.name "span")])]

def isHead (hd : List SNode) (n : SNode) : Bool := hd.any (fun m => m.id == n.id)

/-- `any(node is head_node for head_node in head_nodes)`: identity of node objects. -/
theorem is_head_eval (vs : Vars) (hd : List SNode) (n : SNode)
    (hh : vs.get "head_nodes" = .list (hd.map spanNode)) (hn : vs.get "node" = spanNode n) :
    eval spanEnv vs (.call "any" [.comp (.cmp .is_ (.name "node") (.name "head_node")) "head_node" (.name "head_nodes")]) =
      .bool (isHead hd n) := by
  have this : ∀ m : SNode, evalCmp .is_ ((vs.set "head_node" (spanNode m)).get "node")
      ((vs.set "head_node" (spanNode m)).get "head_node") = .bool (m.id == n.id) := by
    intro m
    simp only [Vars.get_set, String.reduceEq, if_false, if_true, hn]
    simp only [evalCmp, spanNode, val_beq_eq, Val.beq]
    by_cases hmn : m.id = n.id
    · simp [hmn]
    · have h2 : ¬ (n.id = m.id) := fun h => hmn h.symm
      have h3 : (1000 + n.id == 1000 + m.id) = false := by simp [h2]
      have h4 : (m.id == n.id) = false := by simp [hmn]
      rw [h3, h4]
  simp only [eval, evalList, hh, Val.elems?, builtin_any, List.map_map, Function.comp_def, this, Option.map_some, any_truthy_bool, isHead]

@[py_eval] theorem min_opt (h : Option Int) (x : Int) : builtin "min" [optInf false h, .int x] = some (optInf false (rmin h x)) := by
  cases h <;> simp [builtin_min2, optInf, rmin, minMaxInf, intsOf?, Val.asInt?, minInts]

@[py_eval] theorem max_opt (l : Option Int) (x : Int) : builtin "max" [optInf true l, .int x] = some (optInf true (rmax l x)) := by
  cases l <;> simp [builtin_max2, optInf, rmax, minMaxInf, intsOf?, Val.asInt?, maxInts]

@[py_eval] theorem optInf_ok (b : Bool) (o : Option Int) : (optInf b o).isErr = false := by
  cases o <;> cases b <;> rfl

/-- what the loop keeps: the head nodes, and the three running values over the nodes done. -/
def SpanVars (hd done : List SNode) (vs : Vars) : Prop :=
  vs.get "head_nodes" = .list (hd.map spanNode) ∧
  vs.get "head_start_time" = optInf false (((done.filter (isHead hd)).map (·.start)).foldl rmin none) ∧
  vs.get "earliest_start_time" = optInf false ((done.map (fun n => n.start - n.leadEff)).foldl rmin none) ∧
  vs.get "latest_end_time" = optInf true ((done.map (fun n => n.start - n.leadEff + n.span)).foldl rmax none)

theorem span_step (hd done : List SNode) (n : SNode) (vs : Vars) (hv : SpanVars hd done vs) :
    (execBlock spanEnv (vs.set "node" (spanNode n)) spanBody).contWith (SpanVars hd (done ++ [n])) := by
  obtain ⟨h1, h2, h3, h4⟩ := hv
  -- the two kinds of operation differ in where lead and span come from; the head test stays an `if`
  cases hc : n.comp <;>
  py_simp [spanNode, spanOp, hc, ↓is_head_eval (hd := hd) (n := n), h1, h2, h3, h4, SpanVars, SNode.leadEff,
    List.filter_cons] <;>
  cases isHead hd n <;> simp

/-- **`_lead_and_span`: the source text computes the model's `leadSpan`** of the head starts and the node intervals (a nested
    block's interval shifted by its own lead, a leaf's lead 0), for every non-empty block with at least one depth-1 node among
    its nodes; `(0, 0)` for an empty block.  (`hd`: the depth-1 nodes, a sub-list of `nodes` by identity.) -/
theorem lead_and_span_matches_source (nodes hd : List SNode) (hne : nodes ≠ [])
    (hhead : (nodes.filter (isHead hd)).map (·.start) ≠ []) :
    callFn spanEnv Composite_lead_and_span
        [.obj "CircuitCompositeOperation" 1
          [("empty_composite", .bool false),
           ("_circuit_graph", .obj "Graph" 2 [("get_nodes_at()", .list (hd.map spanNode)),
                                               ("get_node_iterator()", .list (nodes.map spanNode))])]] =
      .tuple [.int (leadSpan ((nodes.filter (isHead hd)).map (·.start))
                      (nodes.map (fun n => (n.start - n.leadEff, n.start - n.leadEff + n.span)))).1,
              .int (leadSpan ((nodes.filter (isHead hd)).map (·.start))
                      (nodes.map (fun n => (n.start - n.leadEff, n.start - n.leadEff + n.span)))).2] := by
  obtain ⟨vs', ⟨-, hH, hE, hL⟩, hx⟩ := execBlock_for_inv spanEnv "node"
    (.mcall (.attr (.name "self") "_circuit_graph") "get_node_iterator" []) spanBody
    [.ret (.tuple [.bin .sub (.name "head_start_time") (.name "earliest_start_time"),
                   .bin .sub (.name "latest_end_time") (.name "earliest_start_time")])]
    spanNode (SpanVars hd) nodes
    (((((Vars.set [] "self" (.obj "CircuitCompositeOperation" 1
          [("empty_composite", .bool false),
           ("_circuit_graph", .obj "Graph" 2 [("get_nodes_at()", .list (hd.map spanNode)),
                                               ("get_node_iterator()", .list (nodes.map spanNode))])])).set
      "head_nodes" (.list (hd.map spanNode))).set "head_start_time" (.enum "float" "inf")).set
      "earliest_start_time" (.enum "float" "inf")).set "latest_end_time" (.enum "float" "-inf"))
    (by py_simp [])
    (fun done n vs hv => span_step hd done n vs hv)
    (by simp [SpanVars, Vars.get_set, optInf])
  py_simp [Composite_lead_and_span]
  rw [hx]
  -- both lists are non-empty: the running values are finite
  obtain ⟨x, xs, hx'⟩ : ∃ x xs, (nodes.filter (isHead hd)).map (·.start) = x :: xs := by
    cases hq : (nodes.filter (isHead hd)).map (·.start) with
    | nil => exact absurd hq hhead
    | cons x xs => exact ⟨x, xs, rfl⟩
  obtain ⟨n0, ns, rfl⟩ : ∃ n0 ns, nodes = n0 :: ns := by
    cases nodes with
    | nil => exact absurd rfl hne
    | cons n0 ns => exact ⟨n0, ns, rfl⟩
  rw [hx', rmin_minOf] at hH
  rw [List.map_cons, rmin_minOf] at hE
  rw [List.map_cons, rmax_maxOf] at hL
  py_simp [hH, hE, hL, optInf, leadSpan, hx', Function.comp_def]

theorem lead_and_span_empty_matches_source :
    callFn spanEnv Composite_lead_and_span [.obj "CircuitCompositeOperation" 1 [("empty_composite", .bool true)]] =
      .tuple [.int 0, .int 0] := by
  py_simp [Composite_lead_and_span]

end Qco.SpanSrc
