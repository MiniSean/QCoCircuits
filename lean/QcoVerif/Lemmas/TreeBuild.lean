import QcoVerif.Lemmas.UnrollNested
/-
  API-built heaps are trees: the constructor lemmas `newCircuit_tree` (a fresh circuit), `addLeaf_tree` (`add` of a freshly
  created leaf operation), `addSub_tree` (`add_sub_circuit`, which copies) — the last two are `add_fresh_tree` —,
  monotonicity of `TreeBelow` in the depth bound, and a worked example (three nested circuits with counts 1, 2, 3), the
  non-vacuity witness of the property files that assume a tree.  Core Lean only.
-/
namespace Qco

theorem TreeBelow.succ {w : World} : ∀ {f o : Nat}, TreeBelow w f o →
    TreeBelow w (f + 1) o ∧ w.below (f + 1) o = w.below f o ∧
    (∀ cnt, w.expandWith cnt (f + 1) o = w.expandWith cnt f o) ∧ (AllOnes w f o → AllOnes w (f + 1) o) := by
  intro f
  induction f with
  | zero => intro o h; exact h.elim
  | succ f ih =>
    intro o h
    by_cases hc : (w.op o).isComp = true
    · have ihk := fun n (hn : n ∈ w.kids o) => ih (h.kid hc hn)
      refine ⟨TreeBelow.comp_intro h.lt hc (h.kids_nodup hc) (fun n hn => (ihk n hn).1) ?_ ?_, ?_, ?_, ?_⟩
      · intro n hn
        rw [(ihk n hn).2.1]
        exact h.not_below_kid hc hn
      · intro a ha b hb hab
        rw [(ihk a ha).2.1, (ihk b hb).2.1]
        exact h.disj hc ha hb hab
      · rw [below_comp w (f + 1) o hc, below_comp w f o hc, flatMap_congr' (fun n hn => (ihk n hn).2.1)]
      · intro cnt
        rw [expandWith_comp w cnt (f + 1) o hc, expandWith_comp w cnt f o hc,
          flatMap_congr' (fun n hn => (ihk n hn).2.2.1 cnt)]
      · intro ha _
        exact ⟨(ha hc).1, fun n hn => (ihk n hn).2.2.2 ((ha hc).2 n hn)⟩
    · have hl : (w.op o).isComp = false := by simpa using hc
      exact ⟨TreeBelow.leaf_intro h.lt hl (h.stable hl), by rw [below_leaf w (f + 1) o hl, below_leaf w f o hl],
        fun cnt => by rw [expandWith_leaf w cnt (f + 1) o hl, expandWith_leaf w cnt f o hl],
        fun _ hc' => by rw [hl] at hc'; cases hc'⟩

theorem TreeBelow.mono_le_all {w : World} {f f' o : Nat} (h : TreeBelow w f o) (hle : f ≤ f') :
    TreeBelow w f' o ∧ w.below f' o = w.below f o ∧ (∀ cnt, w.expandWith cnt f' o = w.expandWith cnt f o) ∧
    (AllOnes w f o → AllOnes w f' o) := by
  obtain ⟨d, rfl⟩ : ∃ d, f' = f + d := ⟨f' - f, by omega⟩
  induction d with
  | zero => exact ⟨h, rfl, fun _ => rfl, id⟩
  | succ d ih =>
    obtain ⟨h1, h2, h3, h4⟩ := ih (by omega)
    obtain ⟨k1, k2, k3, k4⟩ := h1.succ
    exact ⟨k1, k2.trans h2, fun cnt => (k3 cnt).trans (h3 cnt), fun ha => k4 (h4 ha)⟩

theorem TreeBelow.mono_le {w : World} {f f' o : Nat} (h : TreeBelow w f o) (hle : f ≤ f') :
    TreeBelow w f' o ∧ w.below f' o = w.below f o ∧ w.expand f' o = w.expand f o :=
  have ⟨h1, h2, h3, _⟩ := h.mono_le_all hle
  ⟨h1, h2, by rw [expand_eq_expandWith, expand_eq_expandWith]; exact h3 _⟩

theorem TreeBelow.mono {w : World} {f o : Nat} (h : TreeBelow w f o) (d : Nat) :
    TreeBelow w (f + d) o ∧ w.below (f + d) o = w.below f o ∧ w.expand (f + d) o = w.expand f o :=
  h.mono_le (Nat.le_add_right f d)

theorem newCircuit_tree (w : World) (rep : Rep) (f : Nat) :
    (w.newCircuit rep).2 = w.ops.size ∧ NoWrite w (w.newCircuit rep).1 ∧
    (w.newCircuit rep).1.ops.size = w.ops.size + 1 ∧
    TreeBelow (w.newCircuit rep).1 (f + 1) w.ops.size ∧
    ((w.newCircuit rep).1.op w.ops.size).isComp = true ∧
    ((w.newCircuit rep).1.op w.ops.size).rep = rep ∧ (w.newCircuit rep).1.kids w.ops.size = [] := by
  obtain ⟨_, hsz, hnw, hnew⟩ := newOp_on w w { cls := .comp, link := 0, rep := rep } rfl rfl
  have hk : (w.newCircuit rep).1.kids w.ops.size = [] := by unfold World.kids World.newCircuit; rw [hnew]; rfl
  have hcomp : ((w.newCircuit rep).1.op w.ops.size).isComp = true := by unfold World.newCircuit; rw [hnew]; rfl
  refine ⟨rfl, hnw, hsz, ?_, hcomp, by unfold World.newCircuit; rw [hnew], hk⟩
  refine TreeBelow.of_forest (by unfold World.newCircuit; omega) hcomp (hk ▸ Forest.nil _ _) ?_
  intro n hn; rw [hk] at hn; cases hn

/-- **adding a fresh tree to a tree.**  `w1` extends `w` by a tree `x` (depth ≤ `f`) made of new objects; after `add c x` the
    composite `c` is still a tree, its content gains the expansion of `x`, and nothing else that existed is written. -/
theorem add_fresh_tree {w w1 : World} {f c x : Nat} (hnw : NoWrite w w1) (ht : TreeBelow w (f + 1) c)
    (hcomp : (w.op c).isComp = true) (hx : TreeBelow w1 f x) (hfresh : ∀ j ∈ w1.below f x, w.ops.size ≤ j) :
    TreeBelow (w1.add c x) (f + 1) c ∧ (w1.add c x).ops.size = w1.ops.size ∧ (w1.add c x).rreg = w.rreg ∧
    (w1.add c x).content f c = w.content f c ++ w1.expand f x ∧
    (∀ j, j < w.ops.size → j ≠ c → (w1.add c x).op j = w.op j) ∧
    ((w1.add c x).op c).isComp = true ∧ ((w1.add c x).op c).rep = (w.op c).rep ∧
    (∀ j ∈ (w1.add c x).below (f + 1) c, j ∈ w.below (f + 1) c ∨ j ∈ w1.below f x) := by
  have hc := ht.lt
  obtain ⟨t1, b1, _, _⟩ := hnw.keeps ht
  have hopc : w1.op c = w.op c := hnw.old c hc
  have hcomp1 : (w1.op c).isComp = true := by rw [hopc]; exact hcomp
  have ha := add_appends w1 c x (Nat.lt_of_lt_of_le hc hnw.size)
  obtain ⟨tt, ct, bt⟩ := ha.tree t1 hcomp1 (Forest.single hx) (by
    intro n hn j hjc hjx
    rw [List.mem_singleton.mp hn] at hjx
    rw [b1] at hjc
    have := below_lt w (f + 1) c ht j hjc
    have := hfresh j hjx
    omega)
  refine ⟨tt, ha.size, ha.rreg.trans hnw.rreg, ?_, ?_, ha.isComp.trans hcomp1, ha.rep.trans (by rw [hopc]), ?_⟩
  · rw [ct, content_congr w w1 hnw.rreg f c hcomp (hnw.same_below ht)]
    simp only [List.flatMap_cons, List.flatMap_nil, List.append_nil]
  · intro j hj hjc
    have := hfresh x hx.self_mem
    rw [add_op_other w1 c x j hjc (by omega)]
    exact hnw.old j hj
  · intro j hj
    rcases bt j hj with h1 | ⟨n, hn, h1⟩
    · exact Or.inl (b1 ▸ h1)
    · exact Or.inr (List.mem_singleton.mp hn ▸ h1)

/-- **`add` of a freshly created leaf operation keeps the tree**: the composite gains one node, its content gains the
    signature of the new operation, nothing else that existed is written. -/
theorem addLeaf_tree (w : World) (f c : Nat) (op : Op) (ht : TreeBelow w (f + 2) c) (hcomp : (w.op c).isComp = true)
    (hl : op.isComp = false) (hs : op.CopyStable) :
    TreeBelow ((w.newOp op).1.add c w.ops.size) (f + 2) c ∧
    ((w.newOp op).1.add c w.ops.size).ops.size = w.ops.size + 1 ∧
    ((w.newOp op).1.add c w.ops.size).rreg = w.rreg ∧
    ((w.newOp op).1.add c w.ops.size).content (f + 1) c = w.content (f + 1) c ++ [op.sig] ∧
    (∀ j, j < w.ops.size → j ≠ c → ((w.newOp op).1.add c w.ops.size).op j = w.op j) ∧
    (((w.newOp op).1.add c w.ops.size).op c).isComp = true ∧
    (((w.newOp op).1.add c w.ops.size).op c).rep = (w.op c).rep ∧
    (∀ j ∈ ((w.newOp op).1.add c w.ops.size).below (f + 2) c, j ∈ w.below (f + 2) c ∨ j = w.ops.size) := by
  obtain ⟨_, hsz, hnw, hnew⟩ := newOp_on w w op rfl rfl
  generalize (w.newOp op).1 = w1 at hsz hnw hnew
  have hl1 : (w1.op w.ops.size).isComp = false := by rw [hnew]; exact hl
  have hbx : w1.below (f + 1) w.ops.size = [w.ops.size] := below_leaf w1 f _ hl1
  obtain ⟨a1, a2, a3, a4, a5, a6, a7, a8⟩ := add_fresh_tree hnw ht hcomp
    (TreeBelow.leaf_intro (by omega) hl1 (by rw [hnew]; exact hs))
    (by intro j hj; rw [hbx, List.mem_singleton] at hj; omega)
  rw [expand_leaf w1 f _ hl1, hnew] at a4
  refine ⟨a1, a2.trans hsz, a3, a4, a5, a6, a7, fun j hj => (a8 j hj).imp_right ?_⟩
  intro h
  rw [hbx] at h
  exact List.mem_singleton.mp h

/-- **`add_sub_circuit` keeps the tree**: the sub-circuit is copied, the copy is a fresh tree and becomes a node of `c`;
    the content of `c` gains the expansion of the sub-circuit; nothing else that existed is written. -/
theorem addSub_tree (w : World) (f c sub : Nat) (ht : TreeBelow w (f + 1) c) (hcomp : (w.op c).isComp = true)
    (hs : TreeBelow w f sub) (hf : f ≤ w.depthFuel) :
    TreeBelow (w.addSub c sub).1 (f + 1) c ∧ w.ops.size ≤ (w.addSub c sub).1.ops.size ∧
    (w.addSub c sub).1.rreg = w.rreg ∧
    ((w.addSub c sub).1.content f c).Perm (w.content f c ++ w.expand f sub) ∧
    (∀ j, j < w.ops.size → j ≠ c → (w.addSub c sub).1.op j = w.op j) ∧
    ((w.addSub c sub).1.op c).isComp = true ∧ ((w.addSub c sub).1.op c).rep = (w.op c).rep := by
  have hcs := copyObj_tree f w sub [(w.eqKey sub, c)] w.depthFuel hs hf
  rw [addSub_eq]
  generalize w.copyObj w.depthFuel sub [(w.eqKey sub, c)] = r at hcs
  obtain ⟨w1, cp, lk⟩ := r
  dsimp only at hcs ⊢
  obtain ⟨a1, a2, a3, a4, a5, a6, a7, _⟩ := add_fresh_tree hcs.noWrite ht hcomp hcs.tree hcs.fresh
  exact ⟨a1, by rw [a2]; exact hcs.noWrite.size, a3, by rw [a4]; exact List.Perm.append_left _ hcs.expand, a5, a6, a7⟩

/-! ### a worked example: `top` (count 1) ⊃ `mid` (count 2) = [measure, `inner` (count 3) = [Rx180]]

built with the model's own builder functions; the ids are `inner = exA.2`, `mid = exC.2`, `top = exF.2`. -/

def exX : Op := { cls := .rx180, qs := [0], dur := .glob .mw }
def exM : Op := { cls := .measure, qs := [0], dur := .glob .ro, tag := 1 }

/-- `inner = DeclarativeCircuit(repetitions 3)`. -/
def exA : World × Nat := ({} : World).newCircuit (.fixed 3)
/-- `inner.add(Rx180(0))`. -/
def exB : World := (exA.1.newOp exX).1.add exA.2 exA.1.ops.size
/-- `mid = DeclarativeCircuit(repetitions 2)`. -/
def exC : World × Nat := exB.newCircuit (.fixed 2)
/-- `mid.add(DispersiveMeasure(0))`. -/
def exD : World := (exC.1.newOp exM).1.add exC.2 exC.1.ops.size
/-- `mid.add_sub_circuit(inner)`. -/
def exE : World × Nat := exD.addSub exC.2 exA.2
/-- `top = DeclarativeCircuit()`. -/
def exF : World × Nat := exE.1.newCircuit (.fixed 1)
/-- `top.add_sub_circuit(mid)`. -/
def exG : World × Nat := exF.1.addSub exF.2 exC.2

theorem exX_stable : exX.CopyStable := by unfold Op.CopyStable; decide
theorem exM_stable : exM.CopyStable := by unfold Op.CopyStable; decide

theorem content_of_kids_nil (w : World) (f o : Nat) (h : w.kids o = []) : w.content f o = [] := by
  unfold World.content; rw [h]; rfl

/-- `inner` after `inner.add(Rx180)`: a tree of depth 1 with expansion 3 × Rx180. -/
theorem exB_facts : exB.ops.size = 2 ∧ exA.2 < 1 ∧ TreeBelow exB 2 exA.2 ∧
    exB.expand 2 exA.2 = [exX.sig, exX.sig, exX.sig] ∧ (exB.op exA.2).isComp = true := by
  have nA := newCircuit_tree ({} : World) (.fixed 3) 1
  have sA : exA.1.ops.size = 1 := nA.2.2.1
  have tA : TreeBelow exA.1 2 exA.2 := nA.2.2.2.1
  have cA : (exA.1.op exA.2).isComp = true := nA.2.2.2.2.1
  have rA : (exA.1.op exA.2).rep = .fixed 3 := nA.2.2.2.2.2.1
  have kA : exA.1.kids exA.2 = [] := nA.2.2.2.2.2.2
  have nB := addLeaf_tree exA.1 0 exA.2 exX tA cA (by decide) exX_stable
  have tB : TreeBelow exB 2 exA.2 := nB.1
  have sB : exB.ops.size = exA.1.ops.size + 1 := nB.2.1
  have ctB : exB.content 1 exA.2 = exA.1.content 1 exA.2 ++ [exX.sig] := nB.2.2.2.1
  have cB : (exB.op exA.2).isComp = true := nB.2.2.2.2.2.1
  have rB : (exB.op exA.2).rep = (exA.1.op exA.2).rep := nB.2.2.2.2.2.2.1
  rw [content_of_kids_nil _ _ _ kA, List.nil_append] at ctB
  refine ⟨by rw [sB, sA], by decide, tB, ?_, cB⟩
  rw [expand_comp exB 1 exA.2 cB, ctB, rB, rA]
  rfl

/-- `mid` after `mid.add(measure)`: `inner` is still the same tree, `mid` is a tree with content [measure]. -/
theorem exD_facts : exD.ops.size = 4 ∧ exC.2 = 2 ∧ TreeBelow exD 2 exA.2 ∧
    exD.expand 2 exA.2 = [exX.sig, exX.sig, exX.sig] ∧
    TreeBelow exD 3 exC.2 ∧ (exD.op exC.2).isComp = true ∧ (exD.op exC.2).rep = .fixed 2 ∧
    exD.content 2 exC.2 = [exM.sig] ∧
    (exD.op exA.2).isComp = true ∧ (∀ j ∈ exD.below 2 exA.2, j < 2) ∧ (∀ j ∈ exD.below 3 exC.2, 2 ≤ j) := by
  obtain ⟨sB, iA, tB, xB, cB⟩ := exB_facts
  have nC := newCircuit_tree exB (.fixed 2) 2
  have nwC : NoWrite exB exC.1 := nC.2.1
  have sC : exC.1.ops.size = exB.ops.size + 1 := nC.2.2.1
  have tC : TreeBelow exC.1 3 exC.2 := nC.2.2.2.1
  have cC : (exC.1.op exC.2).isComp = true := nC.2.2.2.2.1
  have rC : (exC.1.op exC.2).rep = .fixed 2 := nC.2.2.2.2.2.1
  have kC : exC.1.kids exC.2 = [] := nC.2.2.2.2.2.2
  obtain ⟨tCi, bCi, xCi, _⟩ := nwC.keeps tB
  have nD := addLeaf_tree exC.1 1 exC.2 exM tC cC (by decide) exM_stable
  have tD : TreeBelow exD 3 exC.2 := nD.1
  have sD : exD.ops.size = exC.1.ops.size + 1 := nD.2.1
  have rrD : exD.rreg = exC.1.rreg := nD.2.2.1
  have ctD : exD.content 2 exC.2 = exC.1.content 2 exC.2 ++ [exM.sig] := nD.2.2.2.1
  have frD : ∀ j, j < exC.1.ops.size → j ≠ exC.2 → exD.op j = exC.1.op j := nD.2.2.2.2.1
  have cD : (exD.op exC.2).isComp = true := nD.2.2.2.2.2.1
  have rD : (exD.op exC.2).rep = (exC.1.op exC.2).rep := nD.2.2.2.2.2.2.1
  have bD : ∀ j ∈ exD.below 3 exC.2, j ∈ exC.1.below 3 exC.2 ∨ j = exC.1.ops.size := nD.2.2.2.2.2.2.2
  -- the identities and sizes as numerals
  have iC : exC.2 = 2 := sB
  have iA : exA.2 = 0 := Nat.lt_one_iff.mp iA
  rw [sB] at sC
  rw [sC] at sD frD bD
  rw [iC] at frD
  have bC : exC.1.below 3 exC.2 = [exC.2] := by rw [below_comp exC.1 2 exC.2 cC, kC]; rfl
  rw [content_of_kids_nil _ _ _ kC, List.nil_append] at ctD
  have hlt : ∀ j ∈ exB.below 2 exA.2, j < 2 := by
    intro j hj
    have := below_lt exB 2 exA.2 tB j hj
    rw [sB] at this
    exact this
  have hDsame : ∀ j ∈ exC.1.below 2 exA.2, (exD.op j).noLink = (exC.1.op j).noLink := by
    intro j hj
    rw [bCi] at hj
    have := hlt j hj
    exact op_eq_noLink (frD j (by omega) (by omega))
  obtain ⟨bDi, _, tDi, _⟩ := congr_below exC.1 exD 2 exA.2 hDsame
  refine ⟨sD, iC, tDi (by rw [sD, sC]; exact Nat.le_succ _) tCi, ?_, tD, cD, rD.trans rC, ctD, ?_, ?_, ?_⟩
  · rw [expand_congr exC.1 exD rrD 2 exA.2 hDsame, xCi, xB]
  · rw [iA, frD 0 (by omega) (by omega), nwC.old 0 (by rw [sB]; omega), ← iA]; exact cB
  · intro j hj
    rw [bDi, bCi] at hj
    exact hlt j hj
  · intro j hj
    rcases bD j hj with h1 | h1
    · rw [bC, List.mem_singleton] at h1
      rw [h1, iC]; exact Nat.le_refl _
    · rw [h1]; exact Nat.le_succ _

/-- the example heap is a tree of depth 3 below `top` (depth bound 4), within the fuel of the driver, and its
    count-expanded content is 2 × (measure, 3 × Rx180). -/
theorem exG_tree : TreeBelow exG.1 4 exF.2 ∧ 4 ≤ exG.1.depthFuel ∧ (exG.1.op exF.2).isComp = true ∧
    (exG.1.expand 4 exF.2).Perm
      [exM.sig, exX.sig, exX.sig, exX.sig, exM.sig, exX.sig, exX.sig, exX.sig] := by
  obtain ⟨sD, iC, tDi, xDi, tD, cD, rD, ctD, _, _, _⟩ := exD_facts
  have nE := addSub_tree exD 2 exC.2 exA.2 tD cD tDi (Nat.le_add_left 2 _)
  have tE : TreeBelow exE.1 3 exC.2 := nE.1
  have sE : exD.ops.size ≤ exE.1.ops.size := nE.2.1
  have ctE : (exE.1.content 2 exC.2).Perm (exD.content 2 exC.2 ++ exD.expand 2 exA.2) := nE.2.2.2.1
  have cE : (exE.1.op exC.2).isComp = true := nE.2.2.2.2.2.1
  have rE : (exE.1.op exC.2).rep = (exD.op exC.2).rep := nE.2.2.2.2.2.2
  rw [ctD, xDi] at ctE
  rw [sD] at sE
  have xE : (exE.1.expand 3 exC.2).Perm
      [exM.sig, exX.sig, exX.sig, exX.sig, exM.sig, exX.sig, exX.sig, exX.sig] := by
    rw [expand_comp exE.1 2 exC.2 cE, rE, rD]
    exact Perm.repeatList 2 ctE
  have nF := newCircuit_tree exE.1 (.fixed 1) 3
  have nwF : NoWrite exE.1 exF.1 := nF.2.1
  have tF : TreeBelow exF.1 4 exF.2 := nF.2.2.2.1
  have cF : (exF.1.op exF.2).isComp = true := nF.2.2.2.2.1
  have rF : (exF.1.op exF.2).rep = .fixed 1 := nF.2.2.2.2.2.1
  have kF : exF.1.kids exF.2 = [] := nF.2.2.2.2.2.2
  obtain ⟨tFm, _, xFm, _⟩ := nwF.keeps tE
  have s4 : 4 ≤ exF.1.ops.size := Nat.le_trans sE nwF.size
  have nG := addSub_tree exF.1 3 exF.2 exC.2 tF cF tFm (Nat.le_trans (Nat.le_succ 3) (Nat.le_trans s4 (Nat.le_add_right _ 2)))
  have tG : TreeBelow exG.1 4 exF.2 := nG.1
  have sG : exF.1.ops.size ≤ exG.1.ops.size := nG.2.1
  have ctG : (exG.1.content 3 exF.2).Perm (exF.1.content 3 exF.2 ++ exF.1.expand 3 exC.2) := nG.2.2.2.1
  have cG : (exG.1.op exF.2).isComp = true := nG.2.2.2.2.2.1
  have rG : (exG.1.op exF.2).rep = (exF.1.op exF.2).rep := nG.2.2.2.2.2.2
  rw [content_of_kids_nil _ _ _ kF, List.nil_append, xFm] at ctG
  refine ⟨tG, Nat.le_trans (Nat.le_trans s4 sG) (Nat.le_add_right _ 2), cG, ?_⟩
  rw [expand_comp exG.1 3 exF.2 cG, rG, rF]
  have h1 : max 1 (exG.1.repCount (.fixed 1)) = 1 := rfl
  rw [h1, repeatList_one]
  exact ctG.trans xE

/-- `mid` (content [measure]) and `inner` (content [Rx180]) are separate trees of the heap `exD`: the hypotheses of
    `C06.extend_keeps_tree`. -/
theorem exD_separate : TreeBelow exD 3 exC.2 ∧ (exD.op exC.2).isComp = true ∧ TreeBelow exD 3 exA.2 ∧
    (exD.op exA.2).isComp = true ∧ (∀ j, j ∈ exD.below 3 exC.2 → j ∉ exD.below 3 exA.2) := by
  obtain ⟨_, _, tDi, _, tD, cD, _, _, cDi, b1, b2⟩ := exD_facts
  obtain ⟨t3, b3, _⟩ := tDi.mono 1
  refine ⟨tD, cD, t3, cDi, ?_⟩
  intro j h1 h2
  rw [b3] at h2
  have := b1 j h2
  have := b2 j h1
  omega

end Qco
