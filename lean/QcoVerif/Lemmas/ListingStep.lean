import QcoVerif.Lemmas.Listing
/-
  Instances of `decomposed_inv` (Lemmas/Listing.lean) for the steps `pre`, `wstep` of the mutating listing and for folds
  of them: a listing only replaces the object array (`OpsOnly`), keeps every object up to its link (`Shape`) and
  allocates nothing.  Core Lean only.
-/
namespace Qco.Commute

open Qco

/-- `y'` differs from `y` in the object array only. -/
def OpsOnly (y y' : World) : Prop := y' = { y with ops := y'.ops }

theorem OpsOnly.refl (y : World) : OpsOnly y y := rfl

theorem OpsOnly.trans {a b c : World} (h1 : OpsOnly a b) (h2 : OpsOnly b c) : OpsOnly a c := by
  unfold OpsOnly at *
  rw [h2, h1]

theorem OpsOnly.setLink (y : World) (n l : Nat) : OpsOnly y (y.setLink n l) := rfl

theorem OpsOnly.links {a b : World} (h : OpsOnly a b) : b.links = a.links := by
  rw [h]

theorem opsOnly_exists {y z : World} (h : OpsOnly y z) : ∃ O, z = { y with ops := O } := ⟨z.ops, h⟩

theorem ops_ext {a b : World} (hs : a.ops.size = b.ops.size) (h : ∀ j, a.op j = b.op j) : a.ops = b.ops := by
  apply Array.ext hs
  intro i h1 h2
  have := h i
  simpa [World.op, Array.getD, h1, h2] using this

theorem opsOnly_setLink {y w : World} (n l : Nat) (h : OpsOnly y w) : OpsOnly y (w.setLink n l) :=
  h.trans (OpsOnly.setLink w n l)

theorem decomposed_opsOnly' (g c : Nat) {y w : World} (h : OpsOnly y w) : OpsOnly y (w.decomposed g c).1 :=
  decomposed_inv (A := fun _ _ => True) (fun _ n l h _ => opsOnly_setLink n l h) (fun _ _ _ _ _ => trivial) g c w h

theorem decomposed_opsOnly (g c : Nat) (y : World) : OpsOnly y (y.decomposed g c).1 :=
  decomposed_opsOnly' g c (OpsOnly.refl y)

theorem pre_opsOnly (cl : Nat) (y : World) (n : Nat) : OpsOnly y (pre cl y n) :=
  pre_inv (P := OpsOnly y) (A := fun _ _ => True) (fun _ n l h _ => opsOnly_setLink n l h) (OpsOnly.refl y) trivial

theorem pre_links (cl : Nat) (z : World) (m : Nat) : (pre cl z m).links = z.links :=
  (pre_opsOnly cl z m).links

theorem wstep_opsOnly (g cl : Nat) (y : World) (n : Nat) : OpsOnly y (wstep g cl y n) :=
  wstep_inv (A := fun _ _ => True) (fun _ n l h _ => opsOnly_setLink n l h) g (fun c _ h => decomposed_opsOnly' g c h)
    (OpsOnly.refl y) trivial

theorem wstep_links (g cl : Nat) (z : World) (m : Nat) : (wstep g cl z m).links = z.links :=
  (wstep_opsOnly g cl z m).links

theorem foldl_opsOnly (g cl : Nat) (L : List Nat) (y : World) : OpsOnly y (L.foldl (wstep g cl) y) :=
  foldl_inv (OpsOnly y) _ (fun z n h => h.trans (wstep_opsOnly g cl z n)) L y (OpsOnly.refl y)

theorem pre_shape (cl : Nat) {y y0 : World} (h : Shape y y0) (n : Nat) : Shape (pre cl y n) y0 :=
  pre_inv (P := (Shape · y0)) (A := fun _ _ => True) (fun _ n l h _ => h.setLink n l) h trivial

theorem wstep_shape (g cl : Nat) {y y0 : World} (h : Shape y y0) (n : Nat) : Shape (wstep g cl y n) y0 :=
  wstep_inv (P := (Shape · y0)) (A := fun _ _ => True) (fun _ n l h _ => h.setLink n l) g
    (fun c w h => (decomposed_spec y0 g c w h).1) h trivial

theorem foldl_shape (g cl : Nat) {y0 : World} (L : List Nat) (y : World) (h : Shape y y0) :
    Shape (L.foldl (wstep g cl) y) y0 :=
  foldl_inv (Shape · y0) _ (fun _ n h => wstep_shape g cl h n) L y h

theorem pre_size (cl : Nat) (y : World) (n : Nat) : (pre cl y n).ops.size = y.ops.size :=
  pre_inv (P := fun z => z.ops.size = y.ops.size) (A := fun _ _ => True)
    (fun w n l h _ => (w.ops_size_setLink n l).trans h) rfl trivial

theorem wstep_size (g cl : Nat) (y : World) (n : Nat) : (wstep g cl y n).ops.size = y.ops.size :=
  wstep_inv (P := fun z => z.ops.size = y.ops.size) (A := fun _ _ => True)
    (fun w n l h _ => (w.ops_size_setLink n l).trans h) g (fun c w h => (decomposed_sizes g c w).1.trans h) rfl trivial

theorem foldl_size (g cl : Nat) (L : List Nat) (y : World) : (L.foldl (wstep g cl) y).ops.size = y.ops.size :=
  foldl_inv (fun z => z.ops.size = y.ops.size) _ (fun z n h => (wstep_size g cl z n).trans h) L y rfl

theorem pre_op_other (cl : Nat) (y : World) (n j : Nat) (h : j ≠ n) : (pre cl y n).op j = y.op j := by
  unfold pre
  split
  · exact y.op_setLink_of_ne cl h
  · rfl

theorem pre_rel_or_link (cl : Nat) (z : World) (m : Nat) (hm : m < z.ops.size) :
    (pre cl z m).hasRel m = true ∨ ((pre cl z m).op m).link = cl := by
  unfold pre
  cases hr : z.hasRel m with
  | true => exact Or.inl hr
  | false => right; simp only [Bool.not_false, if_true]; rw [z.op_setLink_self cl hm]

theorem pre_self (w : World) (n cl : Nat) (h : w.hasRel n = true ∨ (w.op n).link = cl) : pre cl w n = w := by
  unfold pre
  split
  · rename_i hr
    rcases h with h | h
    · simp [h] at hr
    · exact w.setLink_self n cl h
  · rfl

end Qco.Commute
