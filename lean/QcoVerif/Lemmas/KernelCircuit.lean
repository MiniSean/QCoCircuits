import QcoVerif.Lemmas.Kernel
import QcoVerif.Model.KernelCircuit
/-
  The tag sequence of the multi-round circuit (Model/KernelCircuit.lean) against the index kernels
  (Model/Kernel.lean): the positions of a tag inside the block of one rounds entry are a category of the kernel the
  constructor makes for that entry, block by block along the rounds list. Core Lean only.
-/
namespace Qco.Kernel.Circuit

open Qco.Kernel

theorem positionsFrom_append (t : Tag) (off : Nat) (l₁ l₂ : List Tag) :
    positionsFrom t off (l₁ ++ l₂) = positionsFrom t off l₁ ++ positionsFrom t (off + l₁.length) l₂ := by
  induction l₁ generalizing off with
  | nil => simp [positionsFrom]
  | cons x xs ih =>
    simp only [List.cons_append, positionsFrom, List.length_cons]
    have : off + 1 + xs.length = off + (xs.length + 1) := by omega
    split <;> simp [ih, this]

theorem positionsFrom_replicate_self (t : Tag) (off n : Nat) :
    positionsFrom t off (List.replicate n t) = List.range' off n := by
  induction n generalizing off with
  | zero => simp [positionsFrom]
  | succ m ih => simp [List.replicate_succ, positionsFrom, ih, List.range'_succ]

theorem positionsFrom_replicate_ne {t u : Tag} (hne : u ≠ t) (off n : Nat) :
    positionsFrom t off (List.replicate n u) = [] := by
  induction n generalizing off with
  | zero => simp [positionsFrom]
  | succ m ih => simp [List.replicate_succ, positionsFrom, hne, ih]

/-- where each tag stands in the block of a rounds entry `r`: `heralded` first, then `r` × `parity`, or one `final`
when `r = 0` -/
theorem positionsFrom_ancillaBlock (t : Tag) (off r : Nat) :
    positionsFrom t off (ancillaBlock r) =
      match t with
      | .heralded => [off]
      | .parity => List.range' (off + 1) r
      | .final => if r = 0 then [off + 1] else [] := by
  by_cases hr : r = 0
  · subst hr; cases t <;> simp [ancillaBlock, positionsFrom]
  · cases t <;>
      simp [ancillaBlock, positionsFrom, hr, positionsFrom_replicate_self, positionsFrom_replicate_ne]

theorem ancillaBlock_length (r : Nat) : ((ancillaBlock r).length : Int) = slotLen true r := by
  unfold ancillaBlock slotLen
  split
  · subst_vars; simp only [List.length_cons, List.length_nil, hInt_true]; omega
  · simp only [List.length_cons, List.length_replicate, hInt_true]; omega

/-- the tags of the rounds part of the ancilla sequence -/
def blocksTags (rounds : List Nat) : List Tag := (rounds.map ancillaBlock).flatten

theorem blocksTags_length (rounds : List Nat) :
    ((blocksTags rounds).length : Int) = (rounds.map (slotLen true)).sum := by
  induction rounds with
  | nil => rfl
  | cons r rs ih =>
    have := ancillaBlock_length r
    simp only [blocksTags, List.map_cons, List.flatten_cons, List.length_append, List.sum_cons] at ih ⊢
    omega

/-- per kernel: what the circuit's tag `t` corresponds to -/
def category (e : QId) : Tag → RepKernel → List Int
  | .heralded, k => k.heraldedIdx e
  | .parity, k => k.stabIdx e ++ k.finalIdx e
  | .final, k => if k.nr = 0 then [k.stopIndex] else []

/-- one block against the heralded kernel of its rounds entry that starts at the block's offset, for an ancilla -/
theorem block_eq_category {k : RepKernel} {e : QId} {off : Nat} (he : e ∈ k.ancIds) (hh : k.heralded = true)
    (hoff : k.startIndex = (off : Int)) (t : Tag) :
    (positionsFrom t off (ancillaBlock k.nr)).map Int.ofNat = category e t k := by
  have hstop := k.stop_eq
  rw [positionsFrom_ancillaBlock]
  cases t with
  | heralded => simp [category, RepKernel.heraldedIdx_eq, RepKernel.anc_involved he, hh, hoff]
  | parity =>
    simp only [category, RepKernel.stab_final_anc he, hh, hInt_true, hoff]
    rw [← List.map_add_range' 0 k.nr 1, List.map_map]
    exact List.map_congr_left fun i _ => by simp only [Function.comp, Int.ofNat_eq_natCast]; omega
  | final =>
    simp only [category]
    split
    · rename_i hr
      simp only [slotLen, hh, hInt_true, hr, hoff] at hstop
      simp only [List.map_cons, List.map_nil, Int.ofNat_eq_natCast, hstop, List.cons.injEq, and_true]
      omega
    · rfl

theorem blocks_eq_kernels (d a : List QId) (e : QId) (he : e ∈ a) (t : Tag) (rounds : List Nat)
    (strat : Strategy) (off : Nat) (hoff : strat.getIndex = (off : Int)) :
    (positionsFrom t off (blocksTags rounds)).map Int.ofNat
      = ((buildReps true d a strat rounds).map (category e t)).flatten := by
  induction rounds generalizing strat off with
  | nil => simp [blocksTags, positionsFrom, buildReps]
  | cons r rs ih =>
    let k : RepKernel := { nr := r, heralded := true, strategy := strat, dataIds := d, ancIds := a }
    have hnext : (Strategy.relative k.stopIndex).getIndex = ((off + (ancillaBlock r).length : Nat) : Int) := by
      have hstop : k.stopIndex = k.startIndex + slotLen true r - 1 := k.stop_eq
      have hstart : k.startIndex = (off : Int) := hoff
      have hlen := ancillaBlock_length r
      simp only [Strategy.getIndex, Int.natCast_add]; omega
    have ih' := ih (.relative k.stopIndex) (off + (ancillaBlock r).length) hnext
    simp only [blocksTags] at ih' ⊢
    simp only [List.map_cons, List.flatten_cons, positionsFrom_append, List.map_append, buildReps]
    rw [ih']
    congr 1
    exact block_eq_category (k := k) he rfl hoff t

/-- what the circuit's tag `t` corresponds to in the calibration kernel -/
def calCategory (e : QId) : Tag → CalKernel → List Int
  | .heralded, c => c.heralded0 e ++ c.heralded1 e ++ c.heralded2 e
  | .parity, _ => []
  | .final, c => c.state0 e ++ c.state1 e ++ c.state2 e

theorem positionsFrom_calibrationBlock (t : Tag) (off : Nat) :
    positionsFrom t off calibrationBlock =
      match t with
      | .heralded => [off, off + 2, off + 4]
      | .parity => []
      | .final => [off + 1, off + 3, off + 5] := by
  cases t <;> rfl

/-- the calibration block against a heralded calibration kernel that starts at the block's offset -/
theorem calibrationBlock_eq_category {c : CalKernel} {e : QId} {off : Nat} (he : e ∈ c.ids)
    (hh : c.heralded = true) (hoff : c.startIndex = (off : Int)) (t : Tag) :
    (positionsFrom t off calibrationBlock).map Int.ofNat = calCategory e t c := by
  rw [positionsFrom_calibrationBlock]
  cases t with
  | heralded =>
    show _ = c.heraldedState .s0 e ++ c.heraldedState .s1 e ++ c.heraldedState .s2 e
    simp [CalKernel.heraldedState_eq, he, hh, hoff, StateKey.num]
  | parity => rfl
  | final =>
    show _ = c.projectedState .s0 e ++ c.projectedState .s1 e ++ c.projectedState .s2 e
    simp [CalKernel.projectedState_eq, he, hh, hoff, StateKey.num]
    omega

/-- KERNEL = CIRCUIT for every tag: the positions of tag `t` in an ancilla's sequence are the corresponding
category of the repetition kernels, kernel after kernel, followed by that of the calibration kernel. -/
theorem ancillaTags_eq_kernels {rounds : List Nat} {d a : List QId} {reps : Nat} {K : ExpKernel}
    (B : Built rounds true true d a reps K) {e : QId} (he : e ∈ a) (t : Tag) :
    (positions t (ancillaTags rounds)).map Int.ofNat
      = (K.repKernels.map (category e t)).flatten ++ calCategory e t K.calKernel := by
  have hn : (((0 + (blocksTags rounds).length : Nat)) : Int) = K.calKernel.startIndex := by
    rw [B.cal_start, Nat.zero_add, blocksTags_length]
  show (positionsFrom t 0 (blocksTags rounds ++ calibrationBlock)).map Int.ofNat = _
  rw [positionsFrom_append, List.map_append, blocks_eq_kernels d a e he t rounds (.fixed 0) 0 rfl, ← B.kernels,
    calibrationBlock_eq_category (e := e) (by rw [B.cal_ids]; simp [he]) B.cal_heralded hn.symm]

end Qco.Kernel.Circuit
