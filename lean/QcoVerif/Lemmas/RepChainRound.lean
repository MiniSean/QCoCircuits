import QcoVerif.Lemmas.RepChainDesc
import QcoVerif.Lemmas.RepLayers
/-
  C09, all chain lengths: the effect of one QEC round of the chain on an arbitrary register of
  Z-eigenstates — ancilla 2j+1 picks up the forms of its neighbours 2j and 2j+2 and is measured.
-/
namespace Qco.RepChain
open Qco.StimSem Qco.RepCode

theorem run_single {i : Ins} {s s' : St} (h : step s i = some s') : run [i] s = some s' := by
  simp [run, h]

/-- ancilla qubits in basis `b` holding form `g`, the others as in `F` -/
def ancSet (m : Nat) (F : Nat → Q) (b : Basis) (g : Nat → Nat) : Nat → Q :=
  fun x => if x ∈ ancL m then ⟨b, g x⟩ else F x

theorem ancSet_anc {m : Nat} (F : Nat → Q) (b : Basis) (g : Nat → Nat) {x : Nat} (h : x ∈ ancL m) :
    ancSet m F b g x = ⟨b, g x⟩ := by simp [ancSet, h]

theorem ancSet_other {m : Nat} (F : Nat → Q) (b : Basis) (g : Nat → Nat) {x : Nat} (h : ¬ x ∈ ancL m) :
    ancSet m F b g x = F x := by simp [ancSet, h]

theorem anc_lt {m t : Nat} (h : t ∈ ancL m) : t < 2 * m + 1 := by have := mem_ancL.mp h; omega

/-- a layer of single-qubit gates that takes the ancillas from basis `b` to basis `b'`, keeping their forms -/
theorem run_act1_anc (G : Nat → Ins) (onZ onX onY : Basis × Nat) (hG : ∀ s q, step s (G q) = act1 onZ onX onY s q)
    (b b' : Basis) (hloc : ∀ f, loc onZ onX onY ⟨b, f⟩ = ⟨b', f⟩)
    (m : Nat) (F : Nat → Q) (g : Nat → Nat) (T D : List Nat) (o : Nat) :
    run ((ancL m).map G) ⟨mk (2 * m + 1) (ancSet m F b g), T, D, o⟩ =
      some ⟨mk (2 * m + 1) (ancSet m F b' g), T, D, o⟩ := by
  rw [run_act1_layer G onZ onX onY hG _ _ (fun q hq => anc_lt hq) (ancL_nodup m)]
  congr 2
  apply mk_congr
  intro x _
  by_cases hx : x ∈ ancL m <;> simp [ancSet, hx, hloc]

/-- a layer of CZ gates between each ancilla `t` (an X-eigenstate) and its neighbour `c t` (a data qubit) -/
theorem run_CZ_anc (m : Nat) (c : Nat → Nat) (mkI : Nat → Ins)
    (hI : ∀ t, mkI t = .CZ (c t) t ∨ mkI t = .CZ t (c t))
    (hc : ∀ t ∈ ancL m, c t < 2 * m + 1 ∧ c t ∉ ancL m)
    (F : Nat → Q) (hZ : ∀ q, q < 2 * m + 1 → (F q).b = .Z) (g : Nat → Nat) (T D : List Nat) (o : Nat) :
    run ((ancL m).map mkI) ⟨mk (2 * m + 1) (ancSet m F .X g), T, D, o⟩ =
      some ⟨mk (2 * m + 1) (ancSet m F .X fun t => g t ^^^ (F (c t)).f), T, D, o⟩ := by
  rw [run_cz_layer (2 * m + 1) c mkI hI (ancL m) (ancL_nodup m)]
  · congr 2
    apply mk_congr
    intro x _
    by_cases hx : x ∈ ancL m
    · simp [ancSet, hx, (hc x hx).2]
    · simp [ancSet, hx]
  · intro t ht
    refine ⟨anc_lt ht, (hc t ht).1, ?_, ?_⟩
    · rw [ancSet_other _ _ _ (hc t ht).2]; exact hZ _ (hc t ht).1
    · rw [ancSet_anc _ _ _ ht]
  · intro t ht; exact (hc t ht).2

theorem run_M_anc (m : Nat) (F : Nat → Q) (g : Nat → Nat) (T D : List Nat) (o : Nat) :
    run ((ancL m).map .M) ⟨mk (2 * m + 1) (ancSet m F .Z g), T, D, o⟩ =
      some ⟨mk (2 * m + 1) (ancSet m F .Z g), ((ancL m).map g).reverse ++ T, D, o⟩ :=
  run_M_layer _ _ _ g (fun _ ht => ⟨anc_lt ht, ancSet_anc _ _ _ ht⟩) T D o

/-- form of ancilla `t` after a round -/
def roundForm (F : Nat → Q) (t : Nat) : Nat := (F t).f ^^^ (F (t - 1)).f ^^^ (F (t + 1)).f

/-- One round (`get_circuit_qec_round`) on a register of Z-eigenstates. -/
theorem run_roundIns (m : Nat) (F : Nat → Q) (hZ : ∀ q, q < 2 * m + 1 → (F q).b = .Z)
    (T D : List Nat) (o : Nat) :
    run (roundIns m) ⟨mk (2 * m + 1) F, T, D, o⟩ =
      some ⟨mk (2 * m + 1) (ancSet m F .Z (roundForm F)), ((ancL m).map (roundForm F)).reverse ++ T, D, o⟩ := by
  have h0 : mk (2 * m + 1) F = mk (2 * m + 1) (ancSet m F .Z fun t => (F t).f) := by
    apply mk_congr
    intro x hx
    by_cases hxa : x ∈ ancL m
    · rw [ancSet_anc _ _ _ hxa]
      have := hZ x hx
      rcases hF : F x with ⟨b, f⟩
      rw [hF] at this
      simp only at this
      subst this; rfl
    · rw [ancSet_other _ _ _ hxa]
  unfold roundIns
  rw [h0]
  simp only [List.append_assoc]
  have hpred : ∀ t ∈ ancL m, t - 1 < 2 * m + 1 ∧ t - 1 ∉ ancL m := fun t ht => by
    have := mem_ancL.mp ht
    exact ⟨by omega, fun hh => by have := mem_ancL.mp hh; omega⟩
  have hsucc : ∀ t ∈ ancL m, t + 1 < 2 * m + 1 ∧ t + 1 ∉ ancL m := fun t ht => by
    have := mem_ancL.mp ht
    exact ⟨by omega, fun hh => by have := mem_ancL.mp hh; omega⟩
  rw [run_append_some (run_act1_anc .SY (.X, 0) (.Z, 1) (.Y, 0) (fun _ _ => rfl) .Z .X (fun f => by simp [loc]) m F _ T D o),
    run_append_some (run_TICK _),
    run_append_some (run_CZ_anc m (· - 1) _ (fun t => Or.inl rfl) hpred F hZ _ T D o),
    run_append_some (s' := ⟨mk (2 * m + 1) (ancSet m F .X fun t => (F t).f ^^^ (F (t - 1)).f), T, D, o⟩) rfl,
    run_append_some (run_CZ_anc m (· + 1) _ (fun t => Or.inr rfl) hsucc F hZ _ T D o),
    run_append_some (s' := ⟨mk (2 * m + 1) (ancSet m F .X fun t => (F t).f ^^^ (F (t - 1)).f ^^^ (F (t + 1)).f), T, D, o⟩) rfl,
    run_append_some (run_act1_anc .SYd (.X, 1) (.Z, 0) (.Y, 0) (fun _ _ => rfl) .X .Z (fun f => by simp [loc]) m F _ T D o),
    run_append_some (run_TICK _), run_M_anc]
  rfl

end Qco.RepChain
