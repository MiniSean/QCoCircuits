import Mathlib.Analysis.Complex.Exponential
import Mathlib.Tactic.Linarith
import Mathlib.Tactic.NormNum
/-
  Real-valued part of C14: `PauliAdditiveCircuitNoiseFactory.get_pauli_error(t, t1, t2)`.

      if t == 0: return 0, 0, 0
      px = 0.25 * (1 - exp(-t / t1));  py = px
      pz = 0.5 * (1 - exp(-t / t2)) - 0.25 * (1 - exp(-t / t1))
      each clamped to [0, 1]

  Statements are about `Real.exp`; numpy's `exp` and float rounding are outside (DESIGN.md §3).
  Lean's `x / 0 = 0` would make the statements true for the wrong reason at `t1 = 0` / `t2 = 0`, where the code
  raises `ZeroDivisionError`; the theorems of `Properties/C14.lean` carry the guard `T1 ≠ 0`, `T2 ≠ 0`.
-/
namespace Qco.Noise.Analysis

/-- `min(max(v, 0.0), 1.0)`. -/
noncomputable def clamp01 (v : ℝ) : ℝ := min (max v 0) 1

noncomputable def pxRaw (t T1 : ℝ) : ℝ := 0.25 * (1 - Real.exp (-t / T1))

noncomputable def pzRaw (t T1 T2 : ℝ) : ℝ :=
  0.5 * (1 - Real.exp (-t / T2)) - 0.25 * (1 - Real.exp (-t / T1))

/-- `get_pauli_error`. -/
noncomputable def pauliError (t T1 T2 : ℝ) : ℝ × ℝ × ℝ :=
  if t = 0 then (0, 0, 0)
  else (clamp01 (pxRaw t T1), clamp01 (pxRaw t T1), clamp01 (pzRaw t T1 T2))

theorem clamp01_nonneg (v : ℝ) : 0 ≤ clamp01 v := by
  unfold clamp01; exact le_min (le_max_right _ _) zero_le_one

theorem clamp01_le_one (v : ℝ) : clamp01 v ≤ 1 := by
  unfold clamp01; exact min_le_right _ _

theorem clamp01_of_mem {v : ℝ} (h0 : 0 ≤ v) (h1 : v ≤ 1) : clamp01 v = v := by
  unfold clamp01; rw [max_eq_left h0, min_eq_left h1]

theorem clamp01_of_nonpos {v : ℝ} (h0 : v ≤ 0) : clamp01 v = 0 := by
  unfold clamp01; rw [max_eq_right h0, min_eq_left zero_le_one]

theorem clamp01_le {v : ℝ} (h0 : 0 ≤ v) : clamp01 v ≤ v := by
  unfold clamp01; rw [max_eq_left h0]; exact min_le_left _ _

/-- the algebra behind the bounds, for ANY `x ≤ 1/4`, `y ≤ 1/2` (the raw X value, and the first half of the raw Z
    value): the clamped values add up to at most 1, and to at most 3/4 when X is not clamped from below. -/
theorem clamped_sum (x y : ℝ) (hx : x ≤ 1 / 4) (hy : y ≤ 1 / 2) :
    clamp01 x + clamp01 x + clamp01 (y - x) ≤ 1 ∧ (0 ≤ x → clamp01 x + clamp01 x + clamp01 (y - x) ≤ 3 / 4) := by
  have key : 0 ≤ x → clamp01 x + clamp01 x + clamp01 (y - x) ≤ 3 / 4 := by
    intro h
    have hc := clamp01_le h
    rcases le_total (y - x) 0 with k | k
    · rw [clamp01_of_nonpos k]; linarith
    · have hz := clamp01_le k
      linarith
  refine ⟨?_, key⟩
  rcases le_total x 0 with h | h
  · rw [clamp01_of_nonpos h]
    have := clamp01_le_one (y - x)
    linarith
  · exact (key h).trans (by norm_num)

theorem pauliError_zero (T1 T2 : ℝ) : pauliError 0 T1 T2 = (0, 0, 0) := by simp [pauliError]

theorem pauliError_bounds (t T1 T2 : ℝ) :
    (0 ≤ (pauliError t T1 T2).1 ∧ (pauliError t T1 T2).1 ≤ 1) ∧
    (0 ≤ (pauliError t T1 T2).2.1 ∧ (pauliError t T1 T2).2.1 ≤ 1) ∧
    (0 ≤ (pauliError t T1 T2).2.2 ∧ (pauliError t T1 T2).2.2 ≤ 1) := by
  unfold pauliError
  split
  · simp
  · exact ⟨⟨clamp01_nonneg _, clamp01_le_one _⟩, ⟨clamp01_nonneg _, clamp01_le_one _⟩,
      ⟨clamp01_nonneg _, clamp01_le_one _⟩⟩

/-- X + Y + Z ≤ 1, with no relation between T1 and T2 needed: the clamping takes care of `T2 > 2·T1`. -/
theorem pauliError_sum_le_one (t T1 T2 : ℝ) :
    (pauliError t T1 T2).1 + (pauliError t T1 T2).2.1 + (pauliError t T1 T2).2.2 ≤ 1 := by
  have h1 := Real.exp_pos (-t / T1)
  have h2 := Real.exp_pos (-t / T2)
  unfold pauliError
  split
  · simp
  · exact (clamped_sum (pxRaw t T1) (0.5 * (1 - Real.exp (-t / T2))) (by unfold pxRaw; linarith) (by linarith)).1

/-- physical regime: `t ≥ 0`, `T1 > 0`: X and Y are not clamped and stay below 1/4. -/
theorem pxRaw_mem (t T1 : ℝ) (ht : 0 ≤ t) (hT1 : 0 < T1) : 0 ≤ pxRaw t T1 ∧ pxRaw t T1 < 1 / 4 := by
  have hpos := Real.exp_pos (-t / T1)
  have hle : Real.exp (-t / T1) ≤ 1 := by
    apply Real.exp_le_one_iff.2
    have : 0 ≤ t / T1 := div_nonneg ht hT1.le
    rw [neg_div]; linarith
  unfold pxRaw
  constructor <;> linarith

theorem pauliError_sum_le_physical (t T1 T2 : ℝ) (ht : 0 ≤ t) (hT1 : 0 < T1) :
    (pauliError t T1 T2).1 + (pauliError t T1 T2).2.1 + (pauliError t T1 T2).2.2 ≤ 3 / 4 := by
  obtain ⟨h0, h1⟩ := pxRaw_mem t T1 ht hT1
  have h2 := Real.exp_pos (-t / T2)
  unfold pauliError
  split
  · norm_num
  · exact (clamped_sum (pxRaw t T1) (0.5 * (1 - Real.exp (-t / T2))) h1.le (by linarith)).2 h0

/-- `T2 ≤ 2·T1` is exactly what keeps the Z component from being clamped: then the raw value is ≥ 0. -/
theorem pzRaw_nonneg_of_T2_le (t T1 T2 : ℝ) (ht : 0 ≤ t) (hT2 : 0 < T2) (h : T2 ≤ 2 * T1) :
    0 ≤ pzRaw t T1 T2 := by
  set c := Real.exp (-t / (2 * T1)) with hc
  have ha : Real.exp (-t / T1) = c * c := by
    rw [hc, ← Real.exp_add]; congr 1; ring
  have hb : Real.exp (-t / T2) ≤ c := by
    apply Real.exp_le_exp.2
    rw [neg_div, neg_div, neg_le_neg_iff]
    exact div_le_div_of_nonneg_left ht hT2 h
  unfold pzRaw
  rw [ha]
  linarith [mul_self_nonneg (1 - c)]

/-- without it the raw Z value can be negative (T1 = 1, T2 = 4 > 2·T1, t = 1) and the code returns pz = 0. -/
theorem pzRaw_neg_witness : pzRaw 1 1 4 < 0 ∧ (pauliError 1 1 4).2.2 = 0 := by
  have h1 : (3 : ℝ) / 4 < Real.exp (-1 / 4) := by
    have := Real.add_one_lt_exp (x := (-1 / 4 : ℝ)) (by norm_num)
    linarith
  have h2 : Real.exp (-1 / 1) < 1 / 2 := by
    have e : (2 : ℝ) < Real.exp 1 := by
      have := Real.add_one_lt_exp (x := (1 : ℝ)) (by norm_num)
      linarith
    have : Real.exp (-1 / 1) = (Real.exp 1)⁻¹ := by rw [← Real.exp_neg]; norm_num
    rw [this]
    have hpos := Real.exp_pos 1
    rw [inv_lt_comm₀ hpos (by norm_num)]
    norm_num; linarith
  have hneg : pzRaw 1 1 4 < 0 := by unfold pzRaw; linarith
  refine ⟨hneg, ?_⟩
  unfold pauliError
  rw [if_neg one_ne_zero]
  exact clamp01_of_nonpos hneg.le

end Qco.Noise.Analysis
