import QcoVerif.Lemmas.C10ParamNested
/-
  C10, parametric layer lemmas: the hypotheses of `nested_no_double_booking` as a Boolean function of a heap
  (`layeredOk`), so that a concrete library heap is shown to be an instance by evaluation, and a function that
  reads the layers off the relation trees (`autoCertF`; a certificate producer, nothing is assumed about it).

  Durations are symbolic as in Lemmas/C10Sched.lean (`Regime`, linear forms in four non-negative variables):
  dominance is checked coefficient-wise on sums of `durForm`s; two operations "may conflict" if they share a channel
  and one is a barrier or both duration forms are non-zero.  `layeredOk_sound`: `layeredOk w R cert c = true` ⇒
  `NoDoubleBooking (R.world w v) c` for ALL non-negative `v`.  The check is local (per layer, per path): near-linear
  in the heap but for the width of a layer and the size of a block, in which it is quadratic.
  The checker functions take the accessors `op : Nat → Op`, `lnk : Nat → Link` as arguments (`layeredOkF`), so that
  accessors the kernel evaluates cheaply can be put in (`layeredOkL`: lists; Lemmas/C10ParamFast.lean: binary tries);
  what the kernel evaluates on the generated heaps is `layeredOkM` / `TCase.okM` (Lemmas/C10ParamMask.lean,
  C10ParamFast.lean).
-/
namespace Qco.C10Param

open Qco Qco.C10

def directFbB (op : Nat → Op) (lnk : Nat → Link) (a x : Nat) : Bool :=
  let L := lnk (op x).link
  decide (L.rel = .fb) && ((!L.multi && L.refs.head? == some a) || (L.multi && L.refs == [a]))

def fbStepB (op : Nat → Op) (lnk : Nat → Link) (a x : Nat) : Bool :=
  let L := lnk (op x).link
  decide (L.rel = .fb) && ((!L.multi && L.refs.head? == some a) || (L.multi && L.refs.contains a))

def fbPathB (op : Nat → Op) (lnk : Nat → Link) : Nat → List Nat → Bool
  | _, [] => true
  | a, x :: xs => directFbB op lnk a x && fbPathB op lnk x xs

variable {w : World} {R : Regime} {v : Vars}

theorem directFbB_sound {a x : Nat} (h : directFbB w.op w.lnk a x = true) : DirectFb (R.world w v) a x := by
  show DirectFb w a x
  unfold directFbB at h
  simp only [Bool.and_eq_true, Bool.or_eq_true, decide_eq_true_eq, Bool.not_eq_true', beq_iff_eq] at h
  exact ⟨h.1, h.2⟩

theorem fbStepB_sound {a x : Nat} (h : fbStepB w.op w.lnk a x = true) : FbStep (R.world w v) a x := by
  show FbStep w a x
  unfold fbStepB at h
  simp only [Bool.and_eq_true, Bool.or_eq_true, decide_eq_true_eq, Bool.not_eq_true', beq_iff_eq,
    List.contains_iff_mem] at h
  exact ⟨h.1, h.2⟩

theorem fbPathB_sound : ∀ (xs : List Nat) (a : Nat), fbPathB w.op w.lnk a xs = true → FbPath (R.world w v) a xs := by
  intro xs
  induction xs with
  | nil => intro a _; trivial
  | cons x xs ih =>
    intro a h
    simp only [fbPathB, Bool.and_eq_true] at h
    exact ⟨directFbB_sound h.1, ih x h.2⟩

theorem all_cons_sound {chains : List (List Nat)} {p : Nat → List Nat → Bool}
    (h : chains.all (fun c => match c with | [] => true | x :: xs => p x xs) = true) :
    ∀ c ∈ chains, ∀ x xs, c = x :: xs → p x xs = true := by
  intro c hc x xs hcx
  have := List.all_eq_true.mp h c hc
  rwa [hcx] at this

def internalB (op : Nat → Op) (lnk : Nat → Link) (chains : List (List Nat)) : Bool :=
  chains.all (fun c => match c with | [] => true | x :: xs => fbPathB op lnk x xs)

theorem internalB_sound {chains : List (List Nat)} (h : internalB w.op w.lnk chains = true) :
    ∀ c ∈ chains, ∀ x xs, c = x :: xs → FbPath (R.world w v) x xs :=
  fun c hc x xs hcx => fbPathB_sound xs x (all_cons_sound h c hc x xs hcx)

def headsAll (chains : List (List Nat)) (p : Nat → Bool) : Bool :=
  chains.all (fun c => match c with | [] => true | x :: _ => p x)

theorem headsAll_sound {chains : List (List Nat)} {p : Nat → Bool} (h : headsAll chains p = true) :
    ∀ c ∈ chains, ∀ x xs, c = x :: xs → p x = true :=
  all_cons_sound (p := fun x _ => p x) h

def sameLinkB (op : Nat → Op) (chains : List (List Nat)) : Bool :=
  headsAll chains (fun x => headsAll chains (fun y => (op x).link == (op y).link))

theorem sameLinkB_sound {chains : List (List Nat)} (h : sameLinkB w.op chains = true) :
    ∀ c ∈ chains, ∀ c' ∈ chains, ∀ x xs x' xs', c = x :: xs → c' = x' :: xs' →
      ((R.world w v).op x).link = ((R.world w v).op x').link := by
  intro c hc c' hc' x xs x' xs' hcx hcx'
  have h1 := headsAll_sound h c hc x xs hcx
  have h2 := headsAll_sound h1 c' hc' x' xs' hcx'
  simpa using h2

/-- sub-circuits count 0: a lower bound. -/
def sumForm (op : Nat → Op) (R : Regime) (w : World) : List Nat → LinForm
  | [] => .zero
  | x :: xs => (if (op x).isComp then LinForm.zero else durForm R w (op x).dur).add (sumForm op R w xs)

def dursNonnegB (w : World) (R : Regime) : Bool :=
  w.ops.toList.all (fun op => (durForm R w op.dur).isNonneg)

theorem dursNonnegB_sound (h : dursNonnegB w R = true) (hv : v.Nonneg) (hR : R.Valid v) :
    LeafDurNonneg (R.world w v) := by
  intro o _
  rw [leafDur_eq R w v hR]
  apply LinForm.eval_nonneg _ hv
  unfold dursNonnegB at h
  rw [List.all_eq_true] at h
  show (durForm R w (w.op o).dur).isNonneg = true
  unfold World.op
  by_cases ho : o < w.ops.size
  · have hmem : w.ops[o] ∈ w.ops.toList := by simp
    have := h _ hmem
    simpa [Array.getD, ho] using this
  · have : w.ops.getD o default = default := by
      simp [Array.getD, ho]
    rw [this]
    rfl

theorem sumForm_le_pathDur (hd : LeafDurNonneg (R.world w v)) (hR : R.Valid v) :
    ∀ (l : List Nat) (D : Int), PathDur (R.world w v) l D → (sumForm w.op R w l).eval v ≤ D := by
  intro l
  induction l with
  | nil => intro D h; simp only [PathDur] at h; subst h; simp [sumForm]
  | cons x xs ih =>
    intro D h
    obtain ⟨d, E, hdv, hE, rfl⟩ := h
    have h1 := ih E hE
    simp only [sumForm, LinForm.eval_add]
    by_cases hc : (w.op x).isComp = true
    · rw [if_pos hc, LinForm.eval_zero]
      have := dur_nonneg hd hdv
      omega
    · rw [if_neg hc]
      have hleaf : ((R.world w v).op x).isComp = false := by simpa using hc
      have := hdv.unique (durV_leaf hleaf)
      rw [leafDur_eq R w v hR] at this
      simp only [world_op] at this
      omega

theorem durSum_eq_sumForm (hR : R.Valid v) : ∀ (l : List Nat), (∀ x ∈ l, (w.op x).isComp = false) →
    durSum (R.world w v) l = (sumForm w.op R w l).eval v := by
  intro l
  induction l with
  | nil => intro _; simp [durSum, sumForm]
  | cons x xs ih =>
    intro hl
    have hx := hl x List.mem_cons_self
    simp only [durSum, sumForm, LinForm.eval_add, hx, Bool.false_eq_true, if_false]
    rw [ih (fun y hy => hl y (List.mem_cons_of_mem _ hy)), leafDur_eq R w v hR]
    rfl

def domB (op : Nat → Op) (w : World) (R : Regime) (L : LayerData) : Bool :=
  L.chains.all (fun c => c == L.main ||
    (c.all (fun x => !(op x).isComp) && ((sumForm op R w L.main).sub (sumForm op R w c)).isNonneg))

theorem domB_sound {L : LayerData} (h : domB w.op w R L = true) (hv : v.Nonneg) (hR : R.Valid v)
    (hd : LeafDurNonneg (R.world w v)) : Dominated (R.world w v) L.chains L.main := by
  intro c hc pre suf hsplit D Dm hD hDm
  unfold domB at h
  rw [List.all_eq_true] at h
  have hcase := h c hc
  rw [Bool.or_eq_true] at hcase
  rcases hcase with hcm | hcl
  · have hcm' : c = L.main := by simpa using hcm
    rw [← hcm', hsplit] at hDm
    obtain ⟨D1, D2, h1, h2, rfl⟩ := pathDur_append.mp hDm
    have := hD.unique h1
    have := h2.nonneg hd
    omega
  · rw [Bool.and_eq_true, List.all_eq_true] at hcl
    obtain ⟨hleaf, hform⟩ := hcl
    have hleaf' : ∀ x ∈ c, (w.op x).isComp = false := fun x hx => by simpa using hleaf x hx
    have hpre : ∀ x ∈ pre, ((R.world w v).op x).isComp = false :=
      fun x hx => hleaf' x (by rw [hsplit]; simp [hx])
    have hsuf : ∀ x ∈ suf, ((R.world w v).op x).isComp = false :=
      fun x hx => hleaf' x (by rw [hsplit]; simp [hx])
    have h1 := hD.unique (pathDur_leaves hpre)
    have h2 := durSum_nonneg hd hsuf
    have h3 : durSum (R.world w v) c = (sumForm w.op R w c).eval v := durSum_eq_sumForm hR c hleaf'
    rw [hsplit, durSum_append] at h3
    have h4 := sumForm_le_pathDur hd hR L.main Dm hDm
    have h5 := LinForm.le_of_sub_nonneg hform hv
    rw [hsplit] at h5
    omega

def confB (op : Nat → Op) (w : World) (R : Regime) (a b : Nat) : Bool :=
  sharesChannel (op a) (op b) &&
  (decide ((op a).cls = .barrier) || decide ((op b).cls = .barrier) ||
   (!(durForm R w (op a).dur).isZero && !(durForm R w (op b).dur).isZero))

theorem confB_sound {a b : Nat} (h : confB w.op w R a b = false) (hR : R.Valid v) : ¬ Conflict (R.world w v) a b := by
  rintro ⟨hsh, hreq⟩
  simp only [world_op] at hsh hreq
  unfold confB at h
  rw [hsh, Bool.true_and] at h
  simp only [Bool.or_eq_false_iff, Bool.and_eq_false_iff, decide_eq_false_iff_not, Bool.not_eq_false'] at h
  obtain ⟨⟨h1, h2⟩, h3⟩ := h
  rcases hreq with hb | hb | ⟨ha, hb⟩
  · exact h1 hb
  · exact h2 hb
  · rw [leafDur_eq R w v hR] at ha hb
    rcases h3 with hz | hz
    · simp only [LinForm.isZero, decide_eq_true_eq] at hz
      rw [hz] at ha; simp at ha
    · simp only [LinForm.isZero, decide_eq_true_eq] at hz
      rw [hz] at hb; simp at hb

def contentsF (op : Nat → Op) : Nat → Nat → List Nat
  | 0, _ => []
  | f+1, c => (op c).graph.flatMap (fun e => if (op e.node).isComp then contentsF op f e.node else [e.node])

def leavesF (op : Nat → Op) (f x : Nat) : List Nat := if (op x).isComp then contentsF op f x else [x]

theorem contentsF_eq (w : World) : ∀ (f c : Nat), contentsF w.op f c = contents w f c := by
  intro f
  induction f with
  | zero => intro c; rfl
  | succ f ih =>
    intro c
    show ((w.op c).graph.flatMap (fun e => if (w.op e.node).isComp then contentsF w.op f e.node else [e.node])) =
      ((w.op c).graph.flatMap (fun e => if (w.op e.node).isComp then contents w f e.node else [e.node]))
    simp only [ih]

theorem leavesF_eq (w : World) (f x : Nat) : leavesF w.op f x = leavesBelow w f x := by
  unfold leavesF leavesBelow
  rw [contentsF_eq]

theorem leavesBelow_world (f x : Nat) : leavesBelow (R.world w v) f x = leavesBelow w f x := by
  unfold leavesBelow
  rw [contents_world]
  rfl

def sepB (op : Nat → Op) (w : World) (R : Regime) (f : Nat) (L : LayerData) : Bool :=
  L.chains.all (fun c => L.chains.all (fun c' => c == c' ||
    c.all (fun x => c'.all (fun y =>
      (leavesF op f x).all (fun a => (leavesF op f y).all (fun b => !confB op w R a b))))))

theorem sepB_sound {f : Nat} {L : LayerData} (h : sepB w.op w R f L = true) (hR : R.Valid v) :
    ∀ c ∈ L.chains, ∀ c' ∈ L.chains, c ≠ c' → ∀ x ∈ c, ∀ y ∈ c',
      ∀ a ∈ leavesBelow (R.world w v) f x, ∀ b ∈ leavesBelow (R.world w v) f y, ¬ Conflict (R.world w v) a b := by
  intro c hc c' hc' hne x hx y hy a ha b hb
  rw [leavesBelow_world, ← leavesF_eq] at ha hb
  unfold sepB at h
  simp only [List.all_eq_true, Bool.or_eq_true, beq_iff_eq, Bool.not_eq_true'] at h
  rcases h c hc c' hc' with heq | hall
  · exact absurd heq hne
  · exact confB_sound (hall x hx y hy a ha b hb) hR

def sideB (op : Nat → Op) (L : LayerData) : Bool :=
  L.chains.all (fun c => c == L.main || c.all (fun x => !(op x).isComp))

theorem sideB_sound {Ls : List LayerData} (h : Ls.all (sideB w.op) = true) : SideLeaves (R.world w v) Ls := by
  intro L hL c hc hne x hx
  rw [List.all_eq_true] at h
  have := h L hL
  unfold sideB at this
  simp only [List.all_eq_true, Bool.or_eq_true, beq_iff_eq, Bool.not_eq_true'] at this
  rcases this c hc with heq | hall
  · exact absurd heq hne
  · exact hall x hx

def layerOkB (op : Nat → Op) (lnk : Nat → Link) (w : World) (R : Regime) (b : Nat) (L : LayerData) : Bool :=
  internalB op lnk L.chains &&
  headsAll L.chains (fun x => fbStepB op lnk b x) &&
  (headsAll L.chains (fun x => directFbB op lnk b x) || sameLinkB op L.chains) &&
  ((L.main.isEmpty && L.chains.isEmpty) || (!L.main.isEmpty && L.chains.contains L.main)) &&
  domB op w R L

theorem layerOkB_sound {b : Nat} {L : LayerData} (h : layerOkB w.op w.lnk w R b L = true) (hv : v.Nonneg) (hR : R.Valid v)
    (hd : LeafDurNonneg (R.world w v)) : LayerOk (R.world w v) b L := by
  unfold layerOkB at h
  simp only [Bool.and_eq_true] at h
  obtain ⟨⟨⟨⟨h1, h2⟩, h3⟩, h4⟩, h5⟩ := h
  refine ⟨internalB_sound h1, ?_, ?_, ?_, domB_sound h5 hv hR hd⟩
  · intro c hc x xs hcx
    exact fbStepB_sound (headsAll_sound h2 c hc x xs hcx)
  · rw [Bool.or_eq_true] at h3
    rcases h3 with h3 | h3
    · left
      intro c hc x xs hcx
      exact directFbB_sound (headsAll_sound h3 c hc x xs hcx)
    · right
      exact sameLinkB_sound h3
  · simp only [Bool.or_eq_true, Bool.and_eq_true, List.isEmpty_iff, Bool.not_eq_true',
      List.contains_iff_mem] at h4
    rcases h4 with ⟨h4, h4'⟩ | ⟨h4, h4'⟩
    · exact Or.inl ⟨h4, h4'⟩
    · refine Or.inr ⟨?_, h4'⟩
      intro hnil
      rw [hnil] at h4
      simp at h4

def layersB (op : Nat → Op) (lnk : Nat → Link) (w : World) (R : Regime) : Nat → List LayerData → Bool
  | _, [] => true
  | b, L :: rest => layerOkB op lnk w R b L && layersB op lnk w R (L.next b) rest

theorem layersB_sound (hv : v.Nonneg) (hR : R.Valid v) (hd : LeafDurNonneg (R.world w v)) :
    ∀ (Ls : List LayerData) (b : Nat), layersB w.op w.lnk w R b Ls = true → Layers (R.world w v) b Ls := by
  intro Ls
  induction Ls with
  | nil => intro b _; trivial
  | cons L rest ih =>
    intro b h
    simp only [layersB, Bool.and_eq_true] at h
    exact ⟨layerOkB_sound h.1 hv hR hd, ih _ h.2⟩

def seqOkB (op : Nat → Op) (lnk : Nat → Link) (w : World) (R : Regime) (X : Nat) (L : LayerData)
    (rest : List LayerData) (f : Nat) : Bool :=
  internalB op lnk L.chains &&
  headsAll L.chains (fun x => (op x).link == (op X).link) &&
  !L.main.isEmpty && L.chains.contains L.main &&
  domB op w R L &&
  layersB op lnk w R (lastOf 0 L.main) rest &&
  (L :: rest).all (sideB op) &&
  (L :: rest).all (sepB op w R f)

theorem seqOkB_sound {X : Nat} {L : LayerData} {rest : List LayerData} {f : Nat}
    (h : seqOkB w.op w.lnk w R X L rest f = true) (hv : v.Nonneg) (hR : R.Valid v)
    (hd : LeafDurNonneg (R.world w v)) : SeqOk (R.world w v) X L rest f := by
  unfold seqOkB at h
  simp only [Bool.and_eq_true] at h
  obtain ⟨⟨⟨⟨⟨⟨⟨h2, h3⟩, h5⟩, h6⟩, h7⟩, h8⟩, h11⟩, h12⟩ := h
  refine ⟨internalB_sound h2, ?_, ?_, ?_, domB_sound h7 hv hR hd, layersB_sound hv hR hd rest _ h8,
    sideB_sound h11, ?_⟩
  · intro c hc x xs hcx
    have := headsAll_sound h3 c hc x xs hcx
    simpa using this
  · intro hnil
    rw [hnil] at h5; simp at h5
  · simpa using h6
  · intro L' hL'
    rw [List.all_eq_true] at h12
    exact sepB_sound (h12 L' hL') hR

/-- nodes that do not lie on a common sequence never conflict (nothing to check for a single sequence). -/
def crossB (op : Nat → Op) (w : World) (R : Regime) (f : Nat) (seqs : List (List LayerData)) : Bool :=
  match seqs with
  | [_] => true
  | _ =>
    seqs.all (fun s => seqs.all (fun s' =>
      (layerOps s).all (fun A => (layerOps s').contains A ||
        (layerOps s').all (fun B => (layerOps s).contains B ||
          (leavesF op f A).all (fun a => (leavesF op f B).all (fun b => !confB op w R a b))))))

theorem crossB_sound {f : Nat} {seqs : List (List LayerData)} (h : crossB w.op w R f seqs = true) (hR : R.Valid v) :
    ∀ s ∈ seqs, ∀ s' ∈ seqs, ∀ A ∈ layerOps s, ∀ B ∈ layerOps s', A ∉ layerOps s' → B ∉ layerOps s →
      ∀ a ∈ leavesBelow (R.world w v) f A, ∀ b ∈ leavesBelow (R.world w v) f B, ¬ Conflict (R.world w v) a b := by
  intro s hs s' hs' A hA B hB hnA hnB a ha b hb
  rw [leavesBelow_world, ← leavesF_eq] at ha hb
  have hgen : (seqs.all (fun s => seqs.all (fun s' =>
      (layerOps s).all (fun A => (layerOps s').contains A ||
        (layerOps s').all (fun B => (layerOps s).contains B ||
          (leavesF w.op f A).all (fun a => (leavesF w.op f B).all (fun b => !confB w.op w R a b))))))) = true →
      confB w.op w R a b = false := by
    intro hall
    simp only [List.all_eq_true, Bool.or_eq_true, List.contains_iff_mem, Bool.not_eq_true'] at hall
    rcases hall s hs s' hs' A hA with h1 | h1
    · exact absurd h1 hnA
    · rcases h1 B hB with h2 | h2
      · exact absurd h2 hnB
      · exact h2 a ha b hb
  unfold crossB at h
  split at h
  · -- a single sequence: `s = s'`
    rename_i t
    simp only [List.mem_singleton] at hs hs'
    subst hs; subst hs'
    exact absurd hA hnA
  · exact confB_sound (hgen h) hR

def blockOkB (op : Nat → Op) (lnk : Nat → Link) (w : World) (R : Regime) (X : Nat) (seqs : List (List LayerData))
    (f : Nat) : Bool :=
  (op X).isComp &&
  !decide ((lnk (op X).link).rel = .je) &&
  seqs.all (fun s => match s with
    | [] => false
    | L :: rest => seqOkB op lnk w R X L rest f) &&
  (op X).graph.all (fun e => seqs.any (fun s => (layerOps s).contains e.node)) &&
  seqs.any (fun s => match s with
    | [] => false
    | L :: _ => match L.main with
      | [] => false
      | x :: _ => (op X).graph.any (fun e => e.parent.isNone && e.node == x)) &&
  crossB op w R f seqs

theorem blockOkB_sound {X : Nat} {seqs : List (List LayerData)} {f : Nat}
    (h : blockOkB w.op w.lnk w R X seqs f = true) (hv : v.Nonneg) (hR : R.Valid v)
    (hd : LeafDurNonneg (R.world w v)) : BlockOk (R.world w v) X seqs f := by
  unfold blockOkB at h
  simp only [Bool.and_eq_true] at h
  obtain ⟨⟨⟨⟨⟨h1, h4⟩, hseq⟩, h9⟩, h10⟩, hcross⟩ := h
  refine ⟨h1, by simpa using h4, ?_, ?_, ?_, crossB_sound hcross hR⟩
  · intro s hs
    rw [List.all_eq_true] at hseq
    have := hseq s hs
    cases s with
    | nil => simp at this
    | cons L rest => exact ⟨L, rest, rfl, seqOkB_sound this hv hR hd⟩
  · intro e he
    rw [List.all_eq_true] at h9
    have := h9 e he
    simp only [List.any_eq_true, List.contains_iff_mem] at this
    exact this
  · rw [List.any_eq_true] at h10
    obtain ⟨s, hs, hm⟩ := h10
    cases s with
    | nil => simp at hm
    | cons L rest =>
      cases hmain : L.main with
      | nil => simp [hmain] at hm
      | cons x xs =>
        simp only [hmain, List.any_eq_true, Bool.and_eq_true, Option.isNone_iff_eq_none, beq_iff_eq] at hm
        obtain ⟨e, he, hp, hn⟩ := hm
        exact ⟨L :: rest, hs, L, rest, x, xs, rfl, hmain, e, he, hp, hn⟩

def nestedB (op : Nat → Op) (lnk : Nat → Link) (w : World) (R : Regime) (cert : Nat → List (List LayerData)) :
    Nat → Nat → Bool
  | 0, _ => false
  | f+1, X => !(op X).isComp ||
      (blockOkB op lnk w R X (cert X) f && (op X).graph.all (fun e => nestedB op lnk w R cert f e.node))

theorem nestedB_sound {cert : Nat → List (List LayerData)} (hv : v.Nonneg) (hR : R.Valid v)
    (hd : LeafDurNonneg (R.world w v)) :
    ∀ (f X : Nat), nestedB w.op w.lnk w R cert f X = true → Nested (R.world w v) cert f X := by
  intro f
  induction f with
  | zero => intro X h; simp [nestedB] at h
  | succ f ih =>
    intro X h
    simp only [nestedB, Bool.or_eq_true, Bool.not_eq_true'] at h
    rcases h with h | h
    · exact Or.inl h
    · right
      simp only [Bool.and_eq_true, List.all_eq_true] at h
      exact ⟨blockOkB_sound h.1 hv hR hd, fun e he => ih e.node (h.2 e he)⟩

def layeredOkF (op : Nat → Op) (lnk : Nat → Link) (w : World) (R : Regime) (cert : Nat → List (List LayerData))
    (c : Nat) : Bool :=
  (op c).isComp && dursNonnegB w R && nestedB op lnk w R cert (w.ops.size + 2) c

def layeredOk (w : World) (R : Regime) (cert : Nat → List (List LayerData)) (c : Nat) : Bool :=
  layeredOkF w.op w.lnk w R cert c

/-- **Soundness of the layered check**: for ALL non-negative values of the variables no two conflicting
    operations of `c` overlap. -/
theorem layeredOk_sound {cert : Nat → List (List LayerData)} {c : Nat} (h : layeredOk w R cert c = true)
    (hv : v.Nonneg) (hR : R.Valid v) : NoDoubleBooking (R.world w v) c := by
  unfold layeredOk layeredOkF at h
  simp only [Bool.and_eq_true] at h
  obtain ⟨⟨h1, h2⟩, h3⟩ := h
  have hd := dursNonnegB_sound h2 hv hR
  exact nested_no_double_booking hd h1 (nestedB_sound hv hR hd _ c h3)

/-- both regimes ⇒ all non-negative duration settings (as `C10.noDoubleBooking_of_both_regimes`). -/
theorem layered_all_durations {c : Nat} {certA certB : Nat → List (List LayerData)}
    (hA : layeredOk w regimeA certA c = true) (hB : layeredOk w regimeB certB c = true)
    {ro mw fl rs : Int} (hro : 0 ≤ ro) (hmw : 0 ≤ mw) (hfl : 0 ≤ fl) (hrs : 0 ≤ rs)
    (heven : mw ≤ ro → (ro - mw) % 2 = 0) : NoDoubleBooking (withDurations w ro mw fl rs) c :=
  forall_durations_of_regimes (P := (NoDoubleBooking · c)) (fun _ hv hR => layeredOk_sound hA hv hR)
    (fun _ hv hR => layeredOk_sound hB hv hR) hro hmw hfl hrs heven

/-! ### reading the layers off a relation tree

A certificate PRODUCER (nothing is proved about it, `layeredOk` checks what it returns): the paths of a layer are
the maximal single-child paths below the opener that stay on the qubits of their first operation (zero-length
non-barrier operations are passed through); the next layer hangs below the path that has children. -/

def kidsOf (g : List Entry) (p : Nat) : List Nat := (g.filter (fun e => e.parent == some p)).map (·.node)

def rootsOf (g : List Entry) : List Nat := (g.filter (fun e => e.parent.isNone)).map (·.node)

def qubitsBelow (op : Nat → Op) (d : Nat) (x : Nat) : List Int :=
  (leavesF op d x).flatMap (fun a => (op a).leafChans.map (·.q))

def zeroLeaf (op : Nat → Op) (y : Nat) : Bool :=
  !(op y).isComp && !decide ((op y).cls = .barrier) && decide ((op y).dur = .fixed 0)

def chainFrom (op : Nat → Op) (d : Nat) (g : List Entry) (hq : List Int) : Nat → Nat → List Nat
  | 0, x => [x]
  | f+1, x =>
    match kidsOf g x with
    | [y] => if (qubitsBelow op d y).all (hq.contains ·) || zeroLeaf op y then x :: chainFrom op d g hq f y else [x]
    | _ => [x]

/-- sequences of layers below the operations `hs` (to recursion depth `f`): the paths of the layer; the path that
    has children becomes `main`, the next layer hangs below it; FURTHER paths that have children or contain a
    sub-circuit are branches of their own (a sequence each, not part of this layer). -/
def seqsFrom (op : Nat → Op) (d : Nat) (g : List Entry) : Nat → List Nat → List (List LayerData)
  | 0, _ => []
  | f+1, hs =>
    if hs.isEmpty then [] else
    let chains := hs.map (fun h => chainFrom op d g (qubitsBelow op d h) g.length h)
    let cont := chains.filter (fun c => !(kidsOf g (lastOf 0 c)).isEmpty)
    let main := match cont with
      | m :: _ => m
      | [] => chains.getLastD []
    let free := chains.filter (fun c => c != main &&
      (!(kidsOf g (lastOf 0 c)).isEmpty || c.any (fun x => (op x).isComp)))
    let here : LayerData := ⟨chains.filter (fun c => !free.contains c), main⟩
    let below (L : LayerData) (c : List Nat) : List (List LayerData) :=
      match seqsFrom op d g f (kidsOf g (lastOf 0 c)) with
      | [] => [[L]]
      | ss => ss.map (fun s => L :: s)
    below here main ++ free.flatMap (fun c => below ⟨[c], c⟩ c)

/-- `d` bounds the nesting depth looked at. -/
def autoCertF (op : Nat → Op) (d : Nat) (X : Nat) : List (List LayerData) :=
  let g := (op X).graph
  seqsFrom op d g g.length (rootsOf g)

def autoCert (w : World) (X : Nat) : List (List LayerData) := autoCertF w.op (w.ops.size + 2) X

/-! ### evaluation-friendly accessors

`World.op` is `Array.getD`, which the kernel evaluates slowly; the same look-up through the underlying list is an
order of magnitude cheaper.  `layeredOkL` is `layeredOk` with list look-ups (`layeredOkL_eq`). -/

def listOp (ops : List Op) (i : Nat) : Op := (ops[i]?).getD default
def listLnk (ls : List Link) (i : Nat) : Link := (ls[i]?).getD default

theorem listOp_eq (w : World) : listOp w.ops.toList = w.op := by
  funext i
  unfold listOp World.op
  simp [Array.getD_eq_getD_getElem?]

theorem listLnk_eq (w : World) : listLnk w.links.toList = w.lnk := by
  funext i
  unfold listLnk World.lnk
  simp [Array.getD_eq_getD_getElem?]

def layeredOkL (w : World) (R : Regime) (c : Nat) : Bool :=
  layeredOkF (listOp w.ops.toList) (listLnk w.links.toList) w R
    (autoCertF (listOp w.ops.toList) (w.ops.size + 2)) c

theorem layeredOkL_eq (w : World) (R : Regime) (c : Nat) :
    layeredOkL w R c = layeredOk w R (autoCert w) c := by
  unfold layeredOkL layeredOk autoCert
  rw [listOp_eq, listLnk_eq]

def caseLayered (x : Case) : Bool := layeredOkL x.w regimeA x.c && layeredOkL x.w regimeB x.c

/-- the schedule tables `tA`, `tB` of the case are not used. -/
theorem caseLayered_sound (x : Case) (h : caseLayered x = true)
    {ro mw fl rs : Int} (hro : 0 ≤ ro) (hmw : 0 ≤ mw) (hfl : 0 ≤ fl) (hrs : 0 ≤ rs)
    (heven : mw ≤ ro → (ro - mw) % 2 = 0) : NoDoubleBooking (withDurations x.w ro mw fl rs) x.c := by
  unfold caseLayered at h
  rw [Bool.and_eq_true, layeredOkL_eq, layeredOkL_eq] at h
  exact layered_all_durations h.1 h.2 hro hmw hfl hrs heven

end Qco.C10Param
