import QcoVerif.Lemmas.RepDets
/-
  C09: heralded initialisation and the symbolic preparation layer of a well-formed description: from the register
  of zeros they lead to the closed-form state `stateB … false` (the `init`, `prepData`, `prepAnc` fields of `Facts`).
-/
namespace Qco.RepCode
open Qco.StimSem

/-- the form a container with `n` states gives to qubit `q` of the list `l` (position `i` ↦ variable `v i`) -/
def posVar (l : List Nat) (v : Nat → Nat) (n q : Nat) : Nat :=
  match l.idxOf? q with
  | some i => if i < n then var (v i) else 0
  | none => 0

theorem xVar_eq (d : Desc) (nD q : Nat) : xVar d nD q = posVar d.dataIdx dataVar nD q := rfl
theorem aVar_eq (d : Desc) (nD nA q : Nat) : aVar d nD nA q = posVar d.ancIdx (ancVar nD) nA q := rfl

theorem posVar_getElem {l : List Nat} (hl : l.Nodup) (v : Nat → Nat) (n : Nat) {i : Nat} (hi : i < l.length) :
    posVar l v n l[i] = if i < n then var (v i) else 0 := by
  rw [posVar, idxOf?_getElem hl hi]

theorem posVar_of_not_mem {l : List Nat} (v : Nat → Nat) (n : Nat) {q : Nat} (h : q ∉ l) : posVar l v n q = 0 := by
  rw [posVar, List.idxOf?_eq_none_iff.mpr h]

theorem posVar_succ {l : List Nat} (hl : l.Nodup) (v : Nat → Nat) {n : Nat} (hn : n < l.length) (x : Nat) :
    posVar l v (n + 1) x = if x = l[n] then var (v n) else posVar l v n x := by
  by_cases hx : x ∈ l
  · obtain ⟨i, hi, rfl⟩ := List.mem_iff_getElem.mp hx
    rw [posVar_getElem hl v _ hi, posVar_getElem hl v _ hi]
    by_cases hin : i = n
    · subst hin; simp
    · have : l[i] ≠ l[n] := fun e => hin <| Option.some.inj <|
        (idxOf?_getElem hl hi).symm.trans ((congrArg l.idxOf? e).trans (idxOf?_getElem hl hn))
      have h2 : (i < n + 1) = (i < n) := by simp; omega
      simp [this, h2]
  · have : x ≠ l[n] := fun e => hx (e ▸ List.getElem_mem hn)
    simp [posVar_of_not_mem v _ hx, this]

theorem start_eq (N : Nat) : start N = ⟨mk N (fun _ => ⟨.Z, 0⟩), [], [], 0⟩ := by
  simp [start, mk, List.map_const']

theorem run_R_layer (N : Nat) (l : List Nat) (hl : ∀ q ∈ l, q < N) (mrec det : List Nat) (obs : Nat) :
    run (l.map .R) ⟨mk N (fun _ => ⟨.Z, 0⟩), mrec, det, obs⟩ = some ⟨mk N (fun _ => ⟨.Z, 0⟩), mrec, det, obs⟩ := by
  induction l with
  | nil => rfl
  | cons q l ih =>
    have hq : q < N := hl q List.mem_cons_self
    have hset : mk N (upd (fun _ => ⟨.Z, 0⟩) q ⟨.Z, 0⟩) = mk N (fun _ => ⟨.Z, 0⟩) :=
      mk_congr fun x _ => by simp [upd]
    simp only [List.map_cons, run, step, mk_length, hq, if_true, mk_set, hset]
    exact ih (fun x hx => hl x (List.mem_cons_of_mem _ hx))

/-- a layer of symbolic preparation gates on the first `n` qubits of the list `l`: each adds its variable -/
theorem run_XV_layer (N : Nat) {l : List Nat} (hl : l.Nodup) (v : Nat → Nat) (F : Nat → Q)
    (hF : ∀ q ∈ l, q < N ∧ (F q).b = .Z) (n : Nat) (hn : n ≤ l.length) (mrec det : List Nat) (obs : Nat) :
    run ((List.range n).map fun i => .XV (l.getD i 0) (v i)) ⟨mk N F, mrec, det, obs⟩ =
      some ⟨mk N (fun x => ⟨(F x).b, (F x).f ^^^ posVar l v n x⟩), mrec, det, obs⟩ := by
  induction n with
  | zero =>
    have : mk N F = mk N (fun x => ⟨(F x).b, (F x).f ^^^ posVar l v 0 x⟩) :=
      mk_congr fun x _ => by cases h : l.idxOf? x <;> simp [posVar, h]
    rw [← this]; rfl
  | succ n ih =>
    have hn' : n < l.length := by omega
    obtain ⟨hq, hz⟩ := hF l[n] (List.getElem_mem hn')
    have hget : l.getD n 0 = l[n] := by simp [List.getD, hn']
    rw [List.range_succ, List.map_append, run_append_some (ih (by omega))]
    simp only [List.map_cons, List.map_nil, run, step, hget, mk_get _ hq, hz, mk_set]
    congr 2
    apply mk_congr
    intro x _
    rw [posVar_succ hl v hn' x]
    by_cases hx : x = l[n]
    · subst hx
      simp [upd, hz, posVar_getElem hl v n hn']
    · simp [upd, hx]

section
variable {d : Desc} (hwf : d.wellFormed = true) {nD nA : Nat}
include hwf

/-- the state "data `x`, ancilla `a`" is the register of zeros with the container's variables added -/
theorem prepared_eq :
    mk d.size (fun x => ⟨.Z, 0 ^^^ posVar d.dataIdx dataVar nD x ^^^ posVar d.ancIdx (ancVar nD) nA x⟩) =
      stateB d nD nA false := by
  rw [stateB_eq]
  apply mk_congr
  intro x _
  by_cases hxd : x ∈ d.dataIdx
  · rw [SB_data nD nA false false hxd, posVar_of_not_mem _ _ (not_anc_of_data hwf hxd)]
    simp [finalFormB, xVar_eq]
  · by_cases hxa : x ∈ d.ancIdx
    · rw [SB_anc hwf nD nA false false hxa, posVar_of_not_mem _ _ hxd]
      simp [cycleFormB, aVar_eq]
    · simp [SB, hxd, hxa, posVar_of_not_mem]

theorem init_of_wf (hD : nD ≤ d.dataIdx.length) (hA : nA ≤ d.ancIdx.length) :
    (prepSym d nD nA).map (fun prep => run (initPart d prep) (start d.size)) =
      some (some ⟨stateB d nD nA false, zeros d, [], 0⟩) := by
  have hprep : prepSym d nD nA = some (((List.range nD).map fun i => .XV (d.dataIdx.getD i 0) (dataVar i)) ++
      ((List.range nA).map fun j => .XV (d.ancIdx.getD j 0) (ancVar nD j))) := by
    simp only [prepSym, prepWith, hD, hA, and_self, if_true, mkSym, Bool.false_eq_true, if_false]
  rw [hprep, Option.map_some, start_eq]
  congr 1
  unfold initPart
  simp only [List.append_assoc]
  rw [run_append_some (run_R_layer _ _ (fun q hq => lt_size hq) [] [] 0),
    run_append_some (run_M_layer _ _ _ (fun _ => 0) (fun q hq => ⟨lt_size hq, rfl⟩) [] [] 0),
    run_append_some (run_TICK _),
    run_append_some (run_XV_layer d.size (dataIdx_nodup hwf) dataVar _
      (fun q hq => ⟨data_lt_size hq, rfl⟩) nD hD _ [] 0),
    run_append_some (run_XV_layer d.size (ancIdx_nodup hwf) (ancVar nD) _
      (fun q hq => ⟨anc_lt_size hq, rfl⟩) nA hA _ [] 0), run_TICK, prepared_eq hwf]
  simp [zeros, map_zero_reverse]

theorem prepData_of_wf (hD : nD ≤ d.dataIdx.length) :
    ((List.range nD).all fun i =>
      decide ((stateB d nD nA false)[d.dataIdx.getD i 0]? = some ⟨.Z, var (dataVar i)⟩)) = true := by
  rw [List.all_eq_true]
  intro i hi
  have hi := List.mem_range.mp hi
  have hl : i < d.dataIdx.length := by omega
  have hget : d.dataIdx.getD i 0 = d.dataIdx[i] := by simp [List.getD, hl]
  have hm := List.getElem_mem hl
  rw [decide_eq_true_eq, hget, stateB_eq, mk_get _ (data_lt_size hm), SB_data nD nA false false hm]
  simp [finalFormB, xVar_eq, posVar_getElem (dataIdx_nodup hwf) dataVar nD hl, hi]

theorem prepAnc_of_wf :
    ((List.range d.ancIdx.length).all fun j =>
      decide ((stateB d nD nA false)[d.ancIdx.getD j 0]? =
        some ⟨.Z, if j < nA then var (ancVar nD j) else 0⟩)) = true := by
  rw [List.all_eq_true]
  intro j hj
  have hl := List.mem_range.mp hj
  have hget : d.ancIdx.getD j 0 = d.ancIdx[j] := by simp [List.getD, hl]
  have hm := List.getElem_mem hl
  rw [decide_eq_true_eq, hget, stateB_eq, mk_get _ (anc_lt_size hm), SB_anc hwf nD nA false false hm]
  simp [cycleFormB, aVar_eq, posVar_getElem (ancIdx_nodup hwf) (ancVar nD) nA hl]

end

end Qco.RepCode
