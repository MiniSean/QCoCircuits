import QcoVerif.Lemmas.CopyGraph
import QcoVerif.Lemmas.AddToGraph
/-
  What the builder functions do to the heap, in the form the unrolling proofs use.  `add` and `extend` append nodes to one
  composite and otherwise change links only (`Appends`, over `LinksOnly`), with exact frames (`add_op_other` in
  Lemmas/AddToGraph.lean, `extend_op_other`); a copy only allocates (`NoWrite`); `applyModifiers` on a composite is a pristine copy, the repetition
  loop and the reset of the count (`unrollTop`), then the recursion into the nodes (`applyModifiers_comp`).  On these rest
  the unrolling of a flat block (all nodes leaf operations: the second half of this file, for Properties/C06.lean) and of a
  tree-shaped heap (Lemmas/TreeHeap.lean … UnrollNested.lean).
  Core Lean only.
-/
namespace Qco

/-- same number of objects, every object equal up to its link, same count registry. -/
def LinksOnly (w' w : World) : Prop := w'.ops.size = w.ops.size ∧ Shape w' w

theorem LinksOnly.refl (w : World) : LinksOnly w w := ⟨rfl, Shape.refl w⟩

theorem LinksOnly.trans {a b c : World} (h1 : LinksOnly a b) (h2 : LinksOnly b c) : LinksOnly a c :=
  ⟨h1.1.trans h2.1, ⟨h1.2.1.trans h2.2.1, fun j => (h1.2.2 j).trans (h2.2.2 j)⟩⟩

theorem newLink_linksOnly (w : World) (L : Link) : LinksOnly (w.newLink L).1 w :=
  ⟨rfl, ⟨rfl, fun _ => rfl⟩⟩

theorem setLink_linksOnly (w : World) (i l : Nat) : LinksOnly (w.setLink i l) w :=
  ⟨w.ops_size_setLink i l, (Shape.refl w).setLink i l⟩

theorem addToGraph_linksOnly (w : World) (g : List Entry) (o : Nat) : LinksOnly (w.addToGraph g o).1 w := by
  rw [Commute.addToGraph_eq]
  exact ⟨Commute.modW_size _ o w, Commute.modW_shape _ o w⟩

theorem add_spec (w : World) (c o : Nat) (hc : c < w.ops.size) :
    (w.add c o).ops.size = w.ops.size ∧ (w.add c o).rreg = w.rreg ∧
    (∃ e : Entry, e.node = o ∧ ((w.add c o).op c).graph = (w.op c).graph ++ [e]) ∧
    ((w.add c o).op c).rep = (w.op c).rep ∧ ((w.add c o).op c).cls = (w.op c).cls ∧
    ∀ j, j ≠ c → ((w.add c o).op j).noLink = (w.op j).noLink := by
  have hl := addToGraph_linksOnly w (w.op c).graph o
  obtain ⟨p, hp⟩ := Commute.addToGraph_snd w (w.op c).graph o
  obtain ⟨k, hk⟩ := attach_eq (w.op c).graph p o
  rw [add_eq_setGraph, hp, hk]
  generalize (w.addToGraph (w.op c).graph o).1 = w1 at hl
  have hc1 : c < w1.ops.size := by rw [hl.1]; exact hc
  refine ⟨(w1.ops_size_setGraph c _).trans hl.1, hl.2.1, ⟨⟨o, p, k⟩, rfl, ?_⟩, ?_, ?_, ?_⟩
  · rw [w1.op_setGraph_self _ hc1]
  · rw [w1.op_setGraph_self _ hc1]; exact hl.2.rep c
  · rw [w1.op_setGraph_self _ hc1]; exact hl.2.cls c
  · intro j hj
    rw [w1.op_setGraph_of_ne _ hj]; exact hl.2.2 j

/-- `w'` is `w` with the nodes `K` appended to the graph of the composite `c`: nothing is allocated but links, `c` keeps
    kind and count, every other object is as it was up to its link. -/
structure Appends (w : World) (c : Nat) (K : List Nat) (w' : World) : Prop where
  size : w'.ops.size = w.ops.size
  rreg : w'.rreg = w.rreg
  nodes : (w'.op c).graph.map (·.node) = (w.op c).graph.map (·.node) ++ K
  rep : (w'.op c).rep = (w.op c).rep
  cls : (w'.op c).cls = (w.op c).cls
  other : ∀ j, j ≠ c → (w'.op j).noLink = (w.op j).noLink

theorem Appends.of_linksOnly {w w' : World} (h : LinksOnly w' w) (c : Nat) : Appends w c [] w' :=
  ⟨h.1, h.2.1, by rw [h.2.graph c, List.append_nil], h.2.rep c, h.2.cls c, fun j _ => h.2.2 j⟩

theorem Appends.trans {w w1 w2 : World} {c : Nat} {K1 K2 : List Nat} (h1 : Appends w c K1 w1)
    (h2 : Appends w1 c K2 w2) : Appends w c (K1 ++ K2) w2 :=
  ⟨h2.size.trans h1.size, h2.rreg.trans h1.rreg, by rw [h2.nodes, h1.nodes, List.append_assoc],
    h2.rep.trans h1.rep, h2.cls.trans h1.cls, fun j hj => (h2.other j hj).trans (h1.other j hj)⟩

theorem Appends.isComp {w w' : World} {c : Nat} {K : List Nat} (h : Appends w c K w') :
    (w'.op c).isComp = (w.op c).isComp := by
  unfold Op.isComp; rw [h.cls]

theorem Appends.length {w w' : World} {c : Nat} {K : List Nat} (h : Appends w c K w') :
    (w'.op c).graph.length = (w.op c).graph.length + K.length := by
  have := congrArg List.length h.nodes
  simpa using this

theorem add_appends (w : World) (c o : Nat) (hc : c < w.ops.size) : Appends w c [o] (w.add c o) := by
  obtain ⟨a1, a2, ⟨e, he, a3⟩, a4, a5, a6⟩ := add_spec w c o hc
  exact ⟨a1, a2, by rw [a3, List.map_append, List.map_cons, List.map_nil, he], a4, a5, a6⟩

/-- one step of `extend`: give the node the group link if it has no relation, then add it. -/
def extendStep (c rel : Nat) (w : World) (n : Nat) : World :=
  (if !w.hasRel n then w.setLink n rel else w).add c n

theorem extendStep_appends (c rel : Nat) (w : World) (n : Nat) (hc : c < w.ops.size) :
    Appends w c [n] (extendStep c rel w n) := by
  have key : ∀ w1 : World, LinksOnly w1 w → Appends w c [n] (w1.add c n) := fun w1 h1 =>
    (Appends.of_linksOnly h1 c).trans (add_appends w1 c n (by rw [h1.1]; exact hc))
  unfold extendStep
  split
  · exact key _ (setLink_linksOnly w n rel)
  · exact key _ (LinksOnly.refl w)

theorem extend_fold_appends (c rel : Nat) (L : List Nat) (w : World) (hc : c < w.ops.size) :
    Appends w c L (L.foldl (extendStep c rel) w) := by
  refine foldl_inv_prefix (fun done wi => Appends w c done wi) ?_ (Appends.of_linksOnly (LinksOnly.refl w) c)
  intro done n wi _ hi
  exact hi.trans (extendStep_appends c rel wi n (by rw [hi.size]; exact hc))

theorem extend_appends (w : World) (c other : Nat) (hc : c < w.ops.size) :
    Appends w c (listing (w.op other).graph) (w.extend c other) := by
  have key : ∀ L : Link, Appends w c (listing (w.op other).graph)
      ((listing (w.op other).graph).foldl (extendStep c (w.newLink L).2) (w.newLink L).1) := fun L =>
    (Appends.of_linksOnly (newLink_linksOnly w L) c).trans (extend_fold_appends c _ _ _ hc)
  unfold World.extend
  simp only
  split
  · exact key _
  · exact key _

theorem extend_spec (w : World) (c other : Nat) (hc : c < w.ops.size) :
    (w.extend c other).ops.size = w.ops.size ∧ (w.extend c other).rreg = w.rreg ∧
    (((w.extend c other).op c).graph.map (·.node)) =
      (w.op c).graph.map (·.node) ++ listing (w.op other).graph ∧
    ((w.extend c other).op c).rep = (w.op c).rep ∧ ((w.extend c other).op c).cls = (w.op c).cls ∧
    ∀ j, j ≠ c → ((w.extend c other).op j).noLink = (w.op j).noLink :=
  have h := extend_appends w c other hc
  ⟨h.size, h.rreg, h.nodes, h.rep, h.cls, h.other⟩

theorem extendStep_op_other (c rel : Nat) (w : World) (n j : Nat) (hjc : j ≠ c) (hjn : j ≠ n) :
    (extendStep c rel w n).op j = w.op j := by
  unfold extendStep
  rw [add_op_other _ _ _ _ hjc hjn]
  split
  · exact w.op_setLink_of_ne rel hjn
  · rfl

theorem extend_op_other (w : World) (c other j : Nat) (hjc : j ≠ c) (hj : j ∉ listing (w.op other).graph) :
    (w.extend c other).op j = w.op j := by
  have key : ∀ (rel : Nat) (w1 : World),
      ((listing (w.op other).graph).foldl (extendStep c rel) w1).op j = w1.op j := fun rel w1 =>
    foldl_inv_prefix (fun _ wi => wi.op j = w1.op j)
      (fun _ n wi hn hi => (extendStep_op_other c rel wi n j hjc (fun e => hj (e ▸ hn))).trans hi) rfl
  unfold World.extend
  simp only
  split
  · exact key _ _
  · exact key _ _

theorem copyLeaf_alloc (w : World) (o : Nat) (lk : Lookup) :
    ∃ (w1 : World) (l r : Nat), w1.ops = w.ops ∧ w1.rreg = w.rreg ∧
      w.copyLeaf o lk = w1.newOp { (w.op o).copyFields with link := l, reg := r } :=
  ⟨_, _, _, (Ext.copyLink w (w.op o).link lk).2.1, copyLink_rreg w _ lk, copyLeaf_eq w o lk⟩

/-- the copy of a composite: a new composite `res = w.ops.size` with the count of the original and a link of its own, on a
    heap with the same objects and count registry, to which the copy loop adds the copies of the nodes. -/
theorem copyObj_comp (w : World) (f o : Nat) (lk : Lookup) (h : (w.op o).isComp = true) :
    ∃ (w1 : World) (l : Nat), w1.ops = w.ops ∧ w1.rreg = w.rreg ∧
      w.copyObj (f + 1) o lk =
        (((listing (w.op o).graph).foldl (cpStep f w.ops.size)
            ((w1.newOp { cls := .comp, link := l, rep := (w.op o).rep }).1, lk)).1,
         w.ops.size,
         ((listing (w.op o).graph).foldl (cpStep f w.ops.size)
            ((w1.newOp { cls := .comp, link := l, rep := (w.op o).rep }).1, lk)).2) := by
  have hops := (Ext.copyLink w (w.op o).link lk).2.1
  have hsz : (w.copyLink (w.op o).link lk).1.ops.size = w.ops.size := by rw [hops]
  exact ⟨_, _, hops, copyLink_rreg w _ lk, by rw [copyObj_comp' w f o lk h, hsz]⟩

/-- `w'` extends `w`: every object of `w` is exactly as it was (only fresh objects were allocated). -/
structure NoWrite (w w' : World) : Prop where
  size : w.ops.size ≤ w'.ops.size
  rreg : w'.rreg = w.rreg
  old : ∀ j, j < w.ops.size → w'.op j = w.op j

theorem NoWrite.refl (w : World) : NoWrite w w := ⟨Nat.le_refl _, rfl, fun _ _ => rfl⟩

theorem NoWrite.trans {a b c : World} (h1 : NoWrite a b) (h2 : NoWrite b c) : NoWrite a c :=
  ⟨Nat.le_trans h1.size h2.size, h2.rreg.trans h1.rreg,
    fun j hj => (h2.old j (Nat.lt_of_lt_of_le hj h1.size)).trans (h1.old j hj)⟩

theorem NoWrite.of_ops {w w' : World} (ho : w'.ops = w.ops) (hr : w'.rreg = w.rreg) : NoWrite w w' :=
  ⟨by rw [ho]; exact Nat.le_refl _, hr, fun j _ => World.op_of_ops_eq ho j⟩

theorem newOp_noWrite (w : World) (op : Op) : NoWrite w (w.newOp op).1 :=
  ⟨by rw [w.ops_size_newOp]; exact Nat.le_succ _, rfl, fun _ hj => w.op_newOp_of_lt op hj⟩

theorem newOp_on (w w1 : World) (op : Op) (ho : w1.ops = w.ops) (hr : w1.rreg = w.rreg) :
    (w1.newOp op).2 = w.ops.size ∧ (w1.newOp op).1.ops.size = w.ops.size + 1 ∧ NoWrite w (w1.newOp op).1 ∧
    (w1.newOp op).1.op w.ops.size = op := by
  have hs : w1.ops.size = w.ops.size := by rw [ho]
  refine ⟨hs, by rw [w1.ops_size_newOp, hs], (NoWrite.of_ops ho hr).trans (newOp_noWrite w1 op), ?_⟩
  rw [← hs]; exact w1.op_newOp_new op

theorem copyLeaf_spec (w : World) (o : Nat) (lk : Lookup) :
    (w.copyLeaf o lk).2 = w.ops.size ∧ (w.copyLeaf o lk).1.ops.size = w.ops.size + 1 ∧ NoWrite w (w.copyLeaf o lk).1 ∧
    ∃ l r, (w.copyLeaf o lk).1.op w.ops.size = { (w.op o).copyFields with link := l, reg := r } := by
  obtain ⟨w1, l, r, ho1, hr1, hcl⟩ := copyLeaf_alloc w o lk
  rw [hcl]
  obtain ⟨h1, h2, h3, h4⟩ := newOp_on w w1 _ ho1 hr1
  exact ⟨h1, h2, h3, l, r, h4⟩

theorem applyModifiers_leaf (w : World) (g o : Nat) (h : (w.op o).isComp = false) : w.applyModifiers g o = w := by
  cases g with
  | zero => rfl
  | succ g => simp [World.applyModifiers, h]

/-- the repetition loop of `applyModifiers`. -/
def repLoop (c orig n : Nat) (w : World) : World :=
  (List.range n).foldl (fun (w1 : World) _ => (w1.copy orig).1.extend c (w1.copy orig).2) w

/-- `applyModifiers` on a composite before the recursion into the nodes: pristine copy, repetition loop, count := 1. -/
def unrollTop (w : World) (c : Nat) : World :=
  (repLoop c (w.copy c).2 (w.repCount (w.op c).rep - 1) (w.copy c).1).setOp c
    { (repLoop c (w.copy c).2 (w.repCount (w.op c).rep - 1) (w.copy c).1).op c with rep := .fixed 1 }

theorem applyModifiers_comp (w : World) (g c : Nat) (h : (w.op c).isComp = true) :
    w.applyModifiers (g + 1) c =
      (listing ((unrollTop w c).op c).graph).foldl (fun (w1 : World) n => w1.applyModifiers g n) (unrollTop w c) := by
  rw [World.applyModifiers]
  simp only [h, Bool.not_true, Bool.false_eq_true, if_false]
  rfl

theorem repLoop_inv {P : World → Nat → Prop} {c orig : Nat}
    (hstep : ∀ w i, P w i → P ((w.copy orig).1.extend c (w.copy orig).2) (i + 1)) (n : Nat) {w : World} {i : Nat}
    (h : P w i) : P (repLoop c orig n w) (i + n) := by
  have := foldl_inv_prefix (L := List.range n) (fun done wi => P wi (i + done.length)) (fun done _ wi _ hi => by
    rw [List.length_append]; exact hstep wi _ hi) (a := w) h
  rw [List.length_range] at this
  exact this

def FlatIn (w : World) (o : Nat) : Prop :=
  ∀ n ∈ listing (w.op o).graph, n < w.ops.size ∧ (w.op n).isComp = false

theorem FlatIn.of_noLink {w w' : World} {c : Nat} (h : FlatIn w c) (hs : w.ops.size ≤ w'.ops.size)
    (hc : (w'.op c).graph = (w.op c).graph)
    (ho : ∀ n, n < w.ops.size → (w.op n).isComp = false → (w'.op n).noLink = (w.op n).noLink) : FlatIn w' c := by
  intro n hn
  rw [hc] at hn
  obtain ⟨h1, h2⟩ := h n hn
  exact ⟨Nat.lt_of_lt_of_le h1 hs, by rw [noLink_isComp (ho n h1 h2)]; exact h2⟩

theorem Appends.flatIn {w w' : World} {c : Nat} {K : List Nat} (h : Appends w c K w') (hc : (w.op c).isComp = true)
    (hf : FlatIn w c) (hK : ∀ n ∈ K, n < w.ops.size ∧ (w.op n).isComp = false) : FlatIn w' c := by
  have hall : ∀ n, n < w.ops.size ∧ (w.op n).isComp = false → n < w'.ops.size ∧ (w'.op n).isComp = false := by
    intro n hn
    have hnc : n ≠ c := fun e => by rw [e, hc] at hn; cases hn.2
    exact ⟨by rw [h.size]; exact hn.1, by rw [noLink_isComp (h.other n hnc)]; exact hn.2⟩
  intro n hn
  rw [mem_listing_iff] at hn
  obtain ⟨e, he, hen⟩ := hn
  have hmem : n ∈ (w'.op c).graph.map (·.node) := List.mem_map.mpr ⟨e, he, hen⟩
  rw [h.nodes, List.mem_append] at hmem
  rcases hmem with hmem | hmem
  · obtain ⟨e', he', hen'⟩ := List.mem_map.mp hmem
    exact hall n (hf n (mem_listing_iff.mpr ⟨e', he', hen'⟩))
  · exact hall n (hK n hmem)

/-- the heap while a flat block is copied: the new composite `w0.ops.size` holds `k` fresh leaf nodes, nothing that existed is
    written. -/
structure FlatInv (w0 : World) (rep : Rep) (wi : World) (k : Nat) : Prop where
  lt : w0.ops.size < wi.ops.size
  nw : NoWrite w0 wi
  rep : (wi.op w0.ops.size).rep = rep
  comp : (wi.op w0.ops.size).isComp = true
  len : (wi.op w0.ops.size).graph.length = k
  flat : FlatIn wi w0.ops.size

theorem cpStep_flat (w0 : World) (rep : Rep) (wi : World) (k f n : Nat) (lk : Lookup)
    (hi : FlatInv w0 rep wi k) (hn : n < w0.ops.size) (hleaf : (w0.op n).isComp = false) :
    FlatInv w0 rep (cpStep (f + 1) w0.ops.size (wi, lk) n).1 (k + 1) := by
  have hleaf' : (wi.op n).isComp = false := by rw [hi.nw.old n hn]; exact hleaf
  obtain ⟨w2, hstep, ho2, _, hr2⟩ := cpStep_fst (f + 1) w0.ops.size (wi, lk) n
  rw [hstep]
  simp only [copyObj_leaf wi f n lk hleaf'] at ho2 hr2 ⊢
  obtain ⟨hid, hsz, hnw, l, r, hnew⟩ := copyLeaf_spec wi n lk
  rw [hid]
  -- `w2`: the heap after the copy of the leaf; the copy is the new object `wi.ops.size`
  have hnw2 : NoWrite wi w2 := hnw.trans (NoWrite.of_ops ho2 hr2)
  have hsz2 : w2.ops.size = wi.ops.size + 1 := by rw [ho2]; exact hsz
  have hnew2 : (w2.op wi.ops.size).isComp = false := by
    rw [World.op_of_ops_eq ho2, hnew]; exact (copyFields_isComp (wi.op n)).trans hleaf'
  have hres : w2.op w0.ops.size = wi.op w0.ops.size := hnw2.old _ hi.lt
  have ha := add_appends w2 w0.ops.size wi.ops.size (Nat.lt_of_lt_of_le hi.lt hnw2.size)
  have hcomp2 : (w2.op w0.ops.size).isComp = true := by rw [hres]; exact hi.comp
  refine ⟨by rw [ha.size]; exact Nat.lt_of_lt_of_le hi.lt hnw2.size, ⟨?_, ?_, ?_⟩, ?_, ?_, ?_, ?_⟩
  · rw [ha.size]; exact Nat.le_trans hi.nw.size hnw2.size
  · rw [ha.rreg, hnw2.rreg]; exact hi.nw.rreg
  · intro j hj
    have := hi.lt
    rw [add_op_other w2 _ _ j (by omega) (by omega), hnw2.old j (by omega)]
    exact hi.nw.old j hj
  · rw [ha.rep, hres]; exact hi.rep
  · rw [ha.isComp]; exact hcomp2
  · rw [ha.length, hres, hi.len]; rfl
  · refine ha.flatIn hcomp2 ?_ ?_
    · exact hi.flat.of_noLink hnw2.size (by rw [hres]) (fun m hm _ => by rw [hnw2.old m hm])
    · intro m hm
      rw [List.mem_singleton] at hm
      subst hm
      exact ⟨by omega, hnew2⟩

theorem copy_flat (w : World) (o : Nat) (ho : (w.op o).isComp = true) (hflat : FlatIn w o) :
    (w.copy o).2 = w.ops.size ∧ FlatInv w (w.op o).rep (w.copy o).1 (w.op o).graph.length := by
  have hf : w.depthFuel = (w.ops.size + 1) + 1 := rfl
  obtain ⟨w1, l, ho1, hr1, hcp⟩ := copyObj_comp w (w.ops.size + 1) o [] ho
  rw [copy_eq, hf, hcp]
  refine ⟨rfl, ?_⟩
  obtain ⟨_, hsz, hnw, hnew⟩ := newOp_on w w1 { cls := .comp, link := l, rep := (w.op o).rep } ho1 hr1
  rw [← listing_length]
  refine foldl_inv_prefix
    (fun done (acc : World × Lookup) => FlatInv w (w.op o).rep acc.1 done.length) ?_ ?_
  · intro done n acc hn hi
    rw [List.length_append]
    exact cpStep_flat w _ acc.1 _ _ n acc.2 hi (hflat n hn).1 (hflat n hn).2
  · refine ⟨by rw [hsz]; exact Nat.lt_succ_self _, hnw, by rw [hnew], by rw [hnew]; rfl, by rw [hnew]; rfl, ?_⟩
    intro n hn
    simp [hnew, listing, sortedEntries] at hn

/-- invariant of the repetition loop: `c` holds `i + 1` copies' worth of leaf nodes, `orig` is an untouched flat copy. -/
structure RepInv (w0 : World) (c orig k : Nat) (w : World) (i : Nat) : Prop where
  hc : c < w.ops.size
  rreg : w.rreg = w0.rreg
  crep : (w.op c).rep = (w0.op c).rep
  ccomp : (w.op c).isComp = true
  clen : (w.op c).graph.length = k * (i + 1)
  cflat : FlatIn w c
  ho : orig < w.ops.size
  hne : orig ≠ c
  ocomp : (w.op orig).isComp = true
  olen : (w.op orig).graph.length = k
  oflat : FlatIn w orig

theorem repStep_inv (w0 : World) (c orig k : Nat) (w : World) (i : Nat) (h : RepInv w0 c orig k w i) :
    RepInv w0 c orig k ((w.copy orig).1.extend c (w.copy orig).2) (i + 1) := by
  obtain ⟨hid, hf⟩ := copy_flat w orig h.ocomp h.oflat
  rw [hid]
  rw [h.olen] at hf
  generalize (w.copy orig).1 = w1 at hf
  have he := extend_appends w1 c w.ops.size (Nat.lt_of_lt_of_le h.hc hf.nw.size)
  generalize w1.extend c w.ops.size = w2 at he
  have hopc : w1.op c = w.op c := hf.nw.old c h.hc
  have hccomp1 : (w1.op c).isComp = true := by rw [hopc]; exact h.ccomp
  have hold : ∀ j, j < w.ops.size → j ≠ c → (w2.op j).noLink = (w.op j).noLink :=
    fun j hj hjc => by rw [he.other j hjc, hf.nw.old j hj]
  have hcflat1 : FlatIn w1 c := h.cflat.of_noLink hf.nw.size (by rw [hopc]) (fun m hm _ => by rw [hf.nw.old m hm])
  refine ⟨by rw [he.size]; exact Nat.lt_of_lt_of_le h.hc hf.nw.size, by rw [he.rreg, hf.nw.rreg]; exact h.rreg,
    by rw [he.rep, hopc]; exact h.crep, by rw [he.isComp]; exact hccomp1, ?_, ?_,
    by rw [he.size]; exact Nat.lt_of_lt_of_le h.ho hf.nw.size, h.hne,
    by rw [noLink_isComp (hold orig h.ho h.hne)]; exact h.ocomp,
    by rw [noLink_graph (hold orig h.ho h.hne)]; exact h.olen, ?_⟩
  · rw [he.length, hopc, h.clen, listing_length, hf.len]
    simp only [Nat.mul_add, Nat.mul_one]
  · exact he.flatIn hccomp1 hcflat1 hf.flat
  · refine h.oflat.of_noLink (by rw [he.size]; exact hf.nw.size) (noLink_graph (hold orig h.ho h.hne)) ?_
    intro m hm hl
    exact hold m hm (fun e => by rw [e, h.ccomp] at hl; cases hl)

/-- **unrolling a flat block, before the recursion into the nodes**: the count is 1, the block holds `max 1 count` times as
    many nodes, all of them leaf operations. -/
theorem unrollTop_flat (w : World) (c : Nat) (hc : c < w.ops.size) (hcomp : (w.op c).isComp = true)
    (hflat : FlatIn w c) :
    ((unrollTop w c).op c).rep = .fixed 1 ∧
    ((unrollTop w c).op c).graph.length = (w.op c).graph.length * (w.repCount (w.op c).rep - 1 + 1) ∧
    FlatIn (unrollTop w c) c ∧ (unrollTop w c).rreg = w.rreg ∧ c < (unrollTop w c).ops.size ∧
    ((unrollTop w c).op c).isComp = true := by
  obtain ⟨hid, hf⟩ := copy_flat w c hcomp hflat
  have hopc : (w.copy c).1.op c = w.op c := hf.nw.old c hc
  have base : RepInv w c w.ops.size (w.op c).graph.length (w.copy c).1 0 :=
    ⟨Nat.lt_trans hc hf.lt, hf.nw.rreg, by rw [hopc], by rw [hopc]; exact hcomp, by rw [hopc]; simp,
      hflat.of_noLink hf.nw.size (by rw [hopc]) (fun m hm _ => by rw [hf.nw.old m hm]), hf.lt, by omega, hf.comp,
      hf.len, hf.flat⟩
  have loop := repLoop_inv (repStep_inv w c w.ops.size (w.op c).graph.length) (w.repCount (w.op c).rep - 1) base
  rw [Nat.zero_add] at loop
  unfold unrollTop
  rw [hid]
  generalize repLoop c w.ops.size (w.repCount (w.op c).rep - 1) (w.copy c).1 = w2 at loop
  have hc3 : (w2.setOp c { w2.op c with rep := .fixed 1 }).op c = { w2.op c with rep := .fixed 1 } :=
    w2.op_setOp_self _ loop.hc
  refine ⟨by rw [hc3], by rw [hc3]; exact loop.clen, ?_, loop.rreg, by rw [w2.ops_size_setOp]; exact loop.hc,
    by rw [hc3]; exact loop.ccomp⟩
  exact loop.cflat.of_noLink (by rw [w2.ops_size_setOp]; exact Nat.le_refl _) (by rw [hc3])
    (fun m _ hl => by rw [w2.op_setOp_of_ne _ (fun e => by rw [e, loop.ccomp] at hl; cases hl)])

end Qco
