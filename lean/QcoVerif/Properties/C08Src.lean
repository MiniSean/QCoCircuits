import QcoVerif.Properties.C08
import QcoVerif.Lemmas.ExportSrc
/-
  C08 — tie to the SOURCE TEXT (DESIGN.md §2.3b).  Kept in a file of its own that nothing imports: a change of the translated
  source functions breaks THESE obligations only, not the build of the property files that import Properties/C08.lean.
-/
namespace Qco.C08
open Qco
open Qco.ExportUnroll

/-! ### tie to the SOURCE TEXT (DESIGN.md §2.3b)

The mini-Python syntax of `DetectorOperation / LogicalObservableOperation / CoordinateShiftOperation.to_stim_instruction`
(addon_stim/circuit_operations.py; regenerated from the source text on every run) evaluates, for ALL field values, to the instruction the model's
`detectorRecs / observableRecs` describe (`stim.CircuitInstruction` and `stim.target_rec` are uninterpreted constructors); where
the model says the code raises (`None + 1`), the interpreter raises. -/

section SourceTie
open Qco.Py Qco.Gen.PySrc Qco.ExportSrc

@[py_eval] theorem builtin_target_rec (args : List Val) : builtin "stim.target_rec" args = none :=
  builtin_none _ _ (by simp [builtinNames])

@[py_eval] theorem builtin_CircuitInstruction (args : List Val) : builtin "stim.CircuitInstruction" args = none :=
  builtin_none _ _ (by simp [builtinNames])

theorem detector_matches_source (q : Int) (last main sec refOff secOff : Option Int) (recs : List Int)
    (h : detectorRecs last main sec refOff secOff = some recs) :
    callFn structEnv Detector_to_stim [detSelf q last main sec refOff secOff] =
      instrVal "DETECTOR" recs (if main.isSome then some [q, 0] else none) := by
  rcases main with _ | m
  · -- no main target: each of the five tests fails at its first conjunct, whatever the other fields are
    obtain rfl : [] = recs := by simpa [detectorRecs] using h
    py_simp [Detector_to_stim, detSelf, optVal, structEnv, instrVal]
  · rcases last with _ | l
    · simp [detectorRecs] at h
    · -- one run per branch of the source: the five shapes of `detectorRecs`
      rcases sec with _ | s <;> rcases refOff with _ | r
      case some.some =>
        rcases secOff with _ | o <;>
        (simp only [detectorRecs, Option.some.injEq] at h; subst h
         py_simp [Detector_to_stim, detSelf, optVal, structEnv, instrVal, recVal])
      all_goals
        simp only [detectorRecs, Option.some.injEq] at h; subst h
        py_simp [Detector_to_stim, detSelf, optVal, structEnv, instrVal, recVal]

theorem detector_raises_matches_source (q : Int) (last main sec refOff secOff : Option Int)
    (h : detectorRecs last main sec refOff secOff = none) :
    (callFn structEnv Detector_to_stim [detSelf q last main sec refOff secOff]).isErr = true := by
  rcases main with _ | m
  · simp [detectorRecs] at h
  · rcases last with _ | l
    · -- whichever branch is taken computes `None + 1` first
      rcases sec with _ | s <;> rcases refOff with _ | r
      case some.some =>
        rcases secOff with _ | o <;> py_simp [Detector_to_stim, detSelf, optVal, structEnv]
      all_goals py_simp [Detector_to_stim, detSelf, optVal, structEnv]
    · rcases sec with _ | s <;> rcases refOff with _ | r <;> rcases secOff with _ | o <;> simp [detectorRecs] at h

theorem observable_matches_source (q : Int) (last main : Option Int) :
    callFn structEnv Observable_to_stim
        [.obj "LogicalObservableOperation" 0 [("qubit_index", .int q), ("last_acquisition_index", optVal last), ("main_target", optVal main)]] =
      (match observableRecs last main with
       | some recs => instrVal "OBSERVABLE_INCLUDE" recs (some [0])
       | none => instrVal "OBSERVABLE_INCLUDE" [] none) := by
  rcases last with _ | l
  · py_simp [Observable_to_stim, optVal, structEnv, instrVal, observableRecs]
  · cases main <;>
    py_simp [Observable_to_stim, optVal, structEnv, instrVal, recVal, observableRecs]

theorem coordinate_shift_matches_source (time space : Int) :
    callFn structEnv CoordinateShift_to_stim
        [.obj "CoordinateShiftOperation" 0 [("time_shift", .int time), ("space_shift", .int space)]] =
      instrVal "SHIFT_COORDS" [] (some [space, time]) := by
  py_simp [CoordinateShift_to_stim, structEnv, instrVal]

end SourceTie

end Qco.C08
