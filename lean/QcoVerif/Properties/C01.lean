import QcoVerif.Lemmas.DefinedExample
import QcoVerif.Lemmas.DefinedUnroll
import QcoVerif.Lemmas.Relations
import QcoVerif.Lemmas.Graph
import QcoVerif.Generated.ClassTable
/-
  C01 — relation-based timing: every operation sits where its relation says.

  All statements are about the specification evaluator `evStart/evEnd/evDur/evRef` (Model/Timing.lean; the
  driver executes the memoised version of the same equations, cross-checked by the `evalcheck` protocol
  command) and about `World.leafAtAny` / `World.addToGraph` (Model/Builder.lean), which the driver executes.

  `Start w o v` reads "the evaluator answers `v` for the start of `o` at some fuel"; by `ev_mono_step` a defined
  answer does not depend on the fuel.  The first half says what the reported times are whenever they are reported.
  Definedness for every API-reachable heap is false (R14: a cyclic relation after unroll + flatten); the second half
  proves it for heaps that carry an acyclicity certificate, which the builder and unrolling keep.
-/
namespace Qco.C01

open Qco Qco.C10

/-- the reported start time is well defined (independent of the fuel the evaluator was given). -/
theorem start_well_defined {w : World} {o : Nat} {a b : Int} (ha : Start w o a) (hb : Start w o b) : a = b :=
  Start.unique ha hb

/-- end = start + duration. -/
theorem end_eq_start_add_duration {w : World} {o : Nat} {e : Int} (h : End w o e) :
    ∃ s d, Start w o s ∧ DurV w o d ∧ e = s + d := End.decompose h

/-- an operation whose (effective) link has no reference starts at the origin of its enclosing circuit. -/
theorem no_relation_starts_at_origin {w : World} {o : Nat} {s : Int} (h : Start w o s)
    (hr : RefV w (w.op o).link none) : s = 0 := by
  obtain ⟨d, r, _, hrv, hcase⟩ := Start.decompose h
  cases RefV.unique hrv hr
  rcases hcase with ⟨_, hs⟩ | ⟨r', _, _, hr', _⟩
  · exact hs
  · cases hr'

/-- FOLLOWED_BY: starts when the referenced operation ends. -/
theorem followed_by_starts_at_end {w : World} {o r : Nat} {s er : Int} (h : Start w o s)
    (hr : RefV w (w.op o).link (some r)) (hrel : (w.lnk (w.op o).link).rel = .fb) (he : End w r er) : s = er := by
  obtain ⟨d, sr, er', _, _, he', rfl⟩ := start_eq_linkStart h hr
  rw [hrel]
  exact End.unique he' he

/-- JOINED_START: starts when the referenced operation starts. -/
theorem joined_start_starts_at_start {w : World} {o r : Nat} {s sr : Int} (h : Start w o s)
    (hr : RefV w (w.op o).link (some r)) (hrel : (w.lnk (w.op o).link).rel = .js) (hs' : Start w r sr) : s = sr := by
  obtain ⟨d, sr', er, _, hsr, _, rfl⟩ := start_eq_linkStart h hr
  rw [hrel]
  exact Start.unique hsr hs'

/-- JOINED_END: ends when the referenced operation ends. -/
theorem joined_end_ends_at_end {w : World} {o r : Nat} {e er : Int} (h : End w o e)
    (hr : RefV w (w.op o).link (some r)) (hrel : (w.lnk (w.op o).link).rel = .je) (he : End w r er) : e = er := by
  obtain ⟨s, d, hs, hd, rfl⟩ := End.decompose h
  obtain ⟨d', sr, er', hd', _, he', rfl⟩ := start_eq_linkStart hs hr
  rw [hrel, DurV.unique hd' hd, End.unique he' he]
  show er - d + d = er
  omega

/-- a group (latest-of) link refers to a member of the group that ends latest; the first one wins ties. -/
theorem group_reference_is_latest (best : Nat × Int) (xs : List (Nat × Int)) :
    (pickLatest best xs = best ∨ pickLatest best xs ∈ xs) ∧
    best.2 ≤ (pickLatest best xs).2 ∧ ∀ x ∈ xs, x.2 ≤ (pickLatest best xs).2 :=
  pickLatest_spec best xs

/-! ### uniqueness of the schedule -/

/-- a candidate schedule: start `S`, lead `L`, duration `D` of every object and reference `R` of every link,
    satisfying the local relation equations of the heap `w`. -/
structure Sol (w : World) (S L D : Nat → Int) (R : Nat → Option Nat) : Prop where
  leaf : ∀ o, (w.op o).isComp = false → L o = 0 ∧ D o = w.leafDur (w.op o).dur
  empty : ∀ o, (w.op o).isComp = true → (w.op o).graph.isEmpty = true → L o = 0 ∧ D o = 0
  comp : ∀ o, (w.op o).isComp = true → (w.op o).graph.isEmpty = false →
    (L o, D o) = leadSpan ((heads (w.op o).graph).map S)
      ((listing (w.op o).graph).map (fun n => (S n - L n, S n - L n + D n)))
  start : ∀ o, S o = linkStart (w.lnk (w.op o).link).rel
      ((R (w.op o).link).map (fun r => (S r, S r + D r))) (D o)
  refSingle : ∀ l, (w.lnk l).multi = false → R l = (w.lnk l).refs.head?
  refMulti : ∀ l, (w.lnk l).multi = true → R l =
    match (w.lnk l).refs with
    | [] => none
    | r0 :: _ => some (pickLatest (r0, S r0 + D r0) ((w.lnk l).refs.map (fun r => (r, S r + D r)))).1

/-- the schedule is the unique solution of the relation equations: any assignment of starts, leads,
    durations and references that satisfies the local equations coincides with what the evaluator reports,
    wherever the evaluator reports anything. -/
theorem schedule_unique {w : World} {S L D : Nat → Int} {R : Nat → Option Nat} (sol : Sol w S L D R) : ∀ f : Nat,
    (∀ o v, evLeadSpan w f o = some v → v = (L o, D o)) ∧
    (∀ o v, evInterval w f o = some v → v = (S o - L o, S o - L o + D o)) ∧
    (∀ o v, evDur w f o = some v → v = D o) ∧
    (∀ o v, evStart w f o = some v → v = S o) ∧
    (∀ o v, evEnd w f o = some v → v = S o + D o) ∧
    (∀ l v, evRef w f l = some v → v = R l) := by
  intro f
  induction f with
  | zero =>
    refine ⟨?_, ?_, ?_, ?_, ?_, ?_⟩ <;> intro o v h
    · rw [evLeadSpan.eq_1] at h; cases h
    · rw [evInterval.eq_1] at h; cases h
    · rw [evDur.eq_1] at h; cases h
    · rw [evStart.eq_1] at h; cases h
    · rw [evEnd.eq_1] at h; cases h
    · rw [evRef.eq_1] at h; cases h
  | succ f ih =>
    -- each equation of the evaluator, read backwards, is the corresponding equation of `Sol` at the values that the
    -- induction hypothesis identifies
    obtain ⟨ihLS, ihIv, ihD, ihS, ihE, ihR⟩ := ih
    refine ⟨?_, ?_, ?_, ?_, ?_, ?_⟩
    · intro o v h
      rw [evLeadSpan_succ_some] at h
      by_cases hc : (w.op o).isComp = true
      · rw [if_pos hc] at h
        by_cases he : (w.op o).graph.isEmpty = true
        · obtain ⟨h1, h2⟩ := sol.empty o hc he
          rw [if_pos he] at h
          rw [← h, h1, h2]
        · rw [if_neg he] at h
          obtain ⟨hs, ivs, h1, h2, rfl⟩ := h
          rw [mapM_eq_map _ S _ hs h1 (fun a _ v hv => ihS a v hv),
            mapM_eq_map _ (fun n => (S n - L n, S n - L n + D n)) _ ivs h2 (fun a _ v hv => ihIv a v hv)]
          exact (sol.comp o hc (by simpa using he)).symm
      · obtain ⟨h1, h2⟩ := sol.leaf o (by simpa using hc)
        rw [if_neg hc] at h
        rw [← h, h1, h2]
    · intro o v h
      obtain ⟨s, l, d, h1, h2, rfl⟩ := evInterval_succ_some.mp h
      cases ihLS o _ h2
      rw [ihS o s h1]
    · intro o v h
      obtain ⟨l, h1⟩ := evDur_succ_some.mp h
      exact congrArg Prod.snd (ihLS o _ h1)
    · intro o v h
      obtain ⟨d, r, h1, h2, h⟩ := evStart_succ_some.mp h
      rw [sol.start o, ← ihD o d h1, ← ihR _ r h2]
      cases r with
      | none => exact h.symm
      | some r =>
        obtain ⟨sr, er, h3, h4, rfl⟩ := h
        rw [ihS r sr h3, ihE r er h4]; rfl
    · intro o v h
      obtain ⟨s, d, h1, h2, rfl⟩ := evEnd_succ_some.mp h
      rw [ihS o s h1, ihD o d h2]
    · intro l v h
      rw [evRef_succ_some] at h
      by_cases hm : (w.lnk l).multi = true
      · rw [if_neg (by simp [hm])] at h
        have hR := sol.refMulti l hm
        cases hr : (w.lnk l).refs with
        | nil => rw [hr] at h hR; rw [hR]; exact h.symm
        | cons r0 rs =>
          rw [hr] at h hR
          obtain ⟨es, e0, h1, h2, rfl⟩ := h
          rw [hR, ihE r0 e0 h2, mapM_eq_map _ (fun r => (r, S r + D r)) _ es h1 (by
            intro a _ v hv
            obtain ⟨e, hx, rfl⟩ := Option.map_eq_some_iff.mp hv
            rw [ihE a e hx])]
      · have hm' : (w.lnk l).multi = false := by simpa using hm
        rw [if_pos (by simp [hm'])] at h
        rw [sol.refSingle l hm', ← h]

/-- the heap "Rx180(q0); Wait(q0, 2.0) FOLLOWED_BY it": the evaluator does answer.  (A `Sol` on a built heap, with its
    schedule: `dxSol`, `example_times_defined` below.) -/
def exWorld : World :=
  { ops := #[{ cls := .rx180, qs := [0], dur := .glob .mw, link := 1 },
             { cls := .wait, qs := [0], dur := .fixed 16, link := 2 }],
    links := #[{}, {}, { refs := [0] }] }

example : evStart exWorld 10 1 = some 8 ∧ evEnd exWorld 10 1 = some 24 := by decide +kernel

/-! ### implicit placement -/

/-- an operation added without relation is placed behind the LAST node in listing order that shares a channel,
    which is a DEEPEST one in relation steps (depth = length of the path key; the listing is breadth first). -/
theorem implicit_predecessor_is_deepest (g : List Entry) (p : Nat → Bool) {n : Nat}
    (h : (listing g).reverse.find? p = some n) :
    p n = true ∧ ∃ e ∈ g, e.node = n ∧ ∀ e' ∈ g, p e'.node = true → e'.key.length ≤ e.key.length := by
  unfold listing at h
  rw [← List.map_reverse, List.find?_map] at h
  cases hf : (sortedEntries g).reverse.find? (p ∘ fun e => e.node) with
  | none => rw [hf] at h; cases h
  | some e =>
    rw [hf] at h
    simp only [Option.map_some, Option.some.injEq] at h
    subst h
    obtain ⟨hp, hmem, hdeep⟩ := last_match_deepest (sortedEntries_depth_sorted g) hf
    refine ⟨by simpa using hp, e, (sortedEntries_perm g).mem_iff.mp hmem, rfl, ?_⟩
    intro e' he' hp'
    exact hdeep e' ((sortedEntries_perm g).mem_iff.mpr he') (by simpa using hp')

/-- `leafAtAny` is that selection, with "shares a channel" = `ChId.matches` on some pair of identifiers. -/
theorem leafAtAny_spec (w : World) (g : List Entry) (chs : List ChId) {n : Nat} (h : w.leafAtAny g chs = some n) :
    (chs.any fun a => (w.chansOf n).any fun b => a.matches b) = true ∧
    ∃ e ∈ g, e.node = n ∧ ∀ e' ∈ g,
      (chs.any fun a => (w.chansOf e'.node).any fun b => a.matches b) = true → e'.key.length ≤ e.key.length :=
  implicit_predecessor_is_deepest g _ h

/-- … and it answers `none` only when no node shares a channel (the operation is then hung under the root and starts
    with the circuit: `add_first_in_channel`). -/
theorem leafAtAny_none (w : World) (g : List Entry) (chs : List ChId) (h : w.leafAtAny g chs = none) :
    ∀ e ∈ g, (chs.any fun a => (w.chansOf e.node).any fun b => a.matches b) = false := by
  intro e he
  unfold World.leafAtAny at h
  rw [List.find?_eq_none] at h
  exact Bool.eq_false_iff.mpr (h e.node (List.mem_reverse.mpr (mem_listing_iff.mpr ⟨e, he, rfl⟩)))

/-- the implicit link: an operation without relation for which a channel-sharing node `lf` exists is hung
    under `lf` and receives a fresh single FOLLOWED_BY link to `lf`. -/
theorem add_implicit_link (w : World) (g : List Entry) (o lf : Nat) (ho : o < w.ops.size)
    (hrel : w.hasRel o = false) (hleaf : w.leafAtAny g (w.chansOf o) = some lf) :
    (w.addToGraph g o).2 = attach g (some lf) o ∧
    (w.addToGraph g o).1.lnk ((w.addToGraph g o).1.op o).link = ({ refs := [lf], rel := .fb } : Link) := by
  rw [Commute.addToGraph_relink w g o lf hrel hleaf]
  refine ⟨rfl, ?_⟩
  rw [World.op_setLink_self _ _ (show o < (w.newLink { refs := [lf] }).1.ops.size from ho), World.lnk_setLink]
  exact w.lnk_newLink_new _

/-- … and with no channel-sharing node it is hung under the root and keeps its (reference-less) link. -/
theorem add_first_in_channel (w : World) (g : List Entry) (o : Nat)
    (hrel : w.hasRel o = false) (hleaf : w.leafAtAny g (w.chansOf o) = none) :
    w.addToGraph g o = (w, attach g none o) :=
  Commute.addToGraph_root w g o hrel hleaf

/-- an explicit relation whose reference is a node of the graph is kept: the operation is hung under it. -/
theorem add_explicit_kept (w : World) (g : List Entry) (o r : Nat)
    (hrel : w.hasRel o = true) (href : w.refOf (w.op o).link = some (some r)) (hin : inGraph g r = true) :
    w.addToGraph g o = (w, attach g (some r) o) :=
  Commute.addToGraph_child w g o r hrel href hin

/-! ### the per-class inputs of the schedule ARE what the live classes say (regenerated on every run) -/

def durCode : Dur → String
  | .fixed d => s!"f{d}" | .reg k => s!"r{k}" | .decoupling => "d"
  | .glob .ro => "gR" | .glob .mw => "gM" | .glob .fl => "gF" | .glob .rs => "gS"

def chanCode : Chan → String
  | .all => "A" | .ro => "R" | .mw => "M" | .fl => "F"

def classRow (c : Cls) : String × String × List (Int × String) × List (Int × String) :=
  (c.name, durCode c.defaultDur,
   (({ cls := c, qs := [7, 9], chan := .fl } : Op).leafChans.map fun x => (x.q, chanCode x.c)),
   (({ cls := c, qs := [3, 1], chan := .ro } : Op).leafChans.map fun x => (x.q, chanCode x.c)))

/-- default durations and channel identifiers of the model are those of the live classes: `Gen.classTable` is read
    from probe instances of the 26 leaf classes on every run (default `duration_strategy`, `channel_identifiers` of two
    probes); `Cls.defaultDur` and `Op.leafChans` reproduce it.  These decide every duration, the channel sharing of the
    implicit placement and the double-booking predicate of C10. -/
theorem class_table_matches_source :
    Gen.classTable = (Cls.all.filter (fun c => c != .comp)).map classRow := by decide +kernel

/-! ### definedness on heaps with an acyclicity certificate (Lemmas/Defined.lean, Lemmas/DefinedBuild.lean)

  `Defined.Ranked w rk`: the rank `rk` of the objects strictly decreases from an object to every reference of its
  link and from a composite to every node of its graph.  `Defined.Closed w`: every reference / node / link field
  names an existing object / link.  `Defined.Acyclic w := ∃ rk, Ranked w rk`.
  A query about an object of rank `k` needs fuel: leadSpan `4k+1`, dur `4k+2`, reference of its link `4k+1`,
  start `4k+3`, end and interval `4k+4`. -/

open Qco.Defined in
/-- times are defined on a ranked heap: with all ranks `≤ B`, every fuel `≥ 4 * B + 4` defines start, end and
    duration of every object (also of the ids beyond the heap, which read as the default object). -/
theorem start_defined_of_ranked {w : World} {rk : Nat → Nat} {B : Nat} (h : Ranked w rk) (hB : ∀ o, rk o ≤ B) :
    ∀ o f, 4 * B + 4 ≤ f →
      (evStart w f o).isSome = true ∧ (evEnd w f o).isSome = true ∧ (evDur w f o).isSome = true := by
  intro o f hf
  have := allDef_of_ranked h hB o f hf
  exact ⟨this.start, this.fin, this.dur⟩

open Qco.Defined in
/-- … in particular with the fuel the driver uses, when the ranks are bounded by the number of objects and links
    (e.g. the rank is an enumeration of the objects). -/
theorem start_defined_with_driver_fuel {w : World} {rk : Nat → Nat} (h : Ranked w rk)
    (hB : ∀ o, rk o ≤ w.ops.size + w.links.size) (o : Nat) :
    (evStart w w.fuel o).isSome = true ∧ (evEnd w w.fuel o).isSome = true ∧ (evDur w w.fuel o).isSome = true :=
  start_defined_of_ranked h hB o w.fuel (by unfold World.fuel; omega)

open Qco.Defined in
/-- on a closed acyclic heap the driver's fuel always suffices (no bound on the ranks needed: the ranks of a
    closed heap can be compressed to `≤ ops.size`, `Ranked.compress`). -/
theorem start_defined_of_acyclic {w : World} (h : Acyclic w) (hc : Closed w) (o : Nat) :
    (evStart w w.fuel o).isSome = true ∧ (evEnd w w.fuel o).isSome = true ∧ (evDur w w.fuel o).isSome = true := by
  have := allDef_fuel h hc o w.fuel (Nat.le_refl _)
  exact ⟨this.start, this.fin, this.dur⟩

open Qco.Defined in
/-- defined and unique: on a closed acyclic heap every object has exactly one start time, and the driver's
    fuel finds it. -/
theorem start_exists_unique {w : World} (h : Acyclic w) (hc : Closed w) (o : Nat) :
    ∃ s, evStart w w.fuel o = some s ∧ ∀ s', Start w o s' → s' = s := by
  obtain ⟨s, hs⟩ := Option.isSome_iff_exists.mp (start_defined_of_acyclic h hc o).1
  exact ⟨s, hs, fun s' h' => start_well_defined h' ⟨_, hs⟩⟩

/-! #### the builder keeps the certificate

  Covered: the empty heap, `newLink`, `newOp`, `newCircuit`, `add` (every branch of `addToGraph`: kept explicit link,
  fresh link to the leaf found, fresh empty link), `extend` (group link to the leaves), `copyObj` / `copy`, `addSub` up to
  a side condition on its last `add`.  `applyModifiers` is covered further below (`applyModifiers_preserves_acyclic`, side condition `SingleUnder`);
  not covered: `flatten` (which can create a cycle, R14). -/

open Qco.Defined in
theorem empty_heap_certified : Closed ({} : World) ∧ Acyclic ({} : World) :=
  ⟨empty_closed, ⟨fun _ => 0, empty_ranked _⟩⟩

open Qco.Defined in
/-- allocating a link changes nothing. -/
theorem newLink_preserves {w : World} (hc : Closed w) (h : Acyclic w) (L : Link) :
    Closed (w.newLink L).1 ∧ Acyclic (w.newLink L).1 :=
  ⟨newLink_closed hc L, newLink_acyclic hc h L⟩

open Qco.Defined in
/-- a new object whose link and graph mention existing objects only gets a rank (on top of everything). -/
theorem newOp_preserves {w : World} (hc : Closed w) (h : Acyclic w) (op : Op) (hl : op.link < w.links.size)
    (h1 : ∀ r ∈ (w.lnk op.link).refs, r < w.ops.size) (h2 : ∀ e ∈ op.graph, e.node < w.ops.size) :
    Closed (w.newOp op).1 ∧ Acyclic (w.newOp op).1 :=
  ⟨newOp_closed hc op hl h1 h2, newOp_acyclic hc h op h1 h2⟩

open Qco.Defined in
/-- a new empty circuit (sharing link `0`) keeps every ranking. -/
theorem newCircuit_preserves {w : World} (hc : Closed w) (h : Acyclic w) (rep : Rep) :
    Closed (w.newCircuit rep).1 ∧ Acyclic (w.newCircuit rep).1 :=
  ⟨newCircuit_closed hc rep, newCircuit_acyclic h rep⟩

open Qco.Defined in
/-- `add` keeps a ranking that puts `o` below `c` and above the present nodes of `c` — whatever `addToGraph` does
    with the link of `o` (keeps it, or replaces it by a fresh link to the leaf found / to nothing). -/
theorem add_keeps_ranking {w : World} {rk : Nat → Nat} (hc : Closed w) (h : Ranked w rk) (c o : Nat)
    (ho : o < w.ops.size) (h1 : rk o < rk c) (h2 : ∀ e ∈ (w.op c).graph, rk e.node < rk o) :
    Closed (w.add c o) ∧ Ranked (w.add c o) rk :=
  ⟨add_closed hc c o ho, add_ranked hc h c o h1 h2⟩

open Qco.Defined in
/-- `add` preserves acyclicity (a new ranking is constructed) when `o` does not depend on `c` and no node of `c`
    depends on `o`.  `Reach w x y`: `x` depends on `y` through links and graphs (reflexive-transitive). -/
theorem add_preserves {w : World} (hc : Closed w) (h : Acyclic w) (c o : Nat) (ho : o < w.ops.size)
    (hcomp : (w.op c).isComp = true) (hoc : ¬ Reach w o c) (hno : ∀ e ∈ (w.op c).graph, ¬ Reach w e.node o) :
    Closed (w.add c o) ∧ Acyclic (w.add c o) :=
  ⟨add_closed hc c o ho, add_acyclic hc h c o hcomp hoc hno⟩

open Qco.Defined in
/-- the builder's usual case: `o` is new as a target (`Unref`: no link refers to it, no graph contains it) and does
    not depend on `c`. -/
theorem add_preserves_fresh {w : World} (hc : Closed w) (h : Acyclic w) (c o : Nat) (ho : o < w.ops.size)
    (hcomp : (w.op c).isComp = true) (hu : Unref w o) (hoc : ¬ Reach w o c) :
    Closed (w.add c o) ∧ Acyclic (w.add c o) :=
  ⟨add_closed hc c o ho, add_acyclic_of_unref hc h c o hcomp hu hoc⟩

open Qco.Defined in
/-- … and when `c` is a top-level circuit (`Unref` as well) `o ≠ c` is enough. -/
theorem add_preserves_roots {w : World} (hc : Closed w) (h : Acyclic w) (c o : Nat) (ho : o < w.ops.size)
    (hcomp : (w.op c).isComp = true) (hu : Unref w o) (huc : Unref w c) (hne : o ≠ c) :
    Closed (w.add c o) ∧ Acyclic (w.add c o) :=
  ⟨add_closed hc c o ho, add_acyclic_of_roots hc h c o hcomp hu huc hne⟩

open Qco.Defined in
/-- `extend` keeps a ranking in which the nodes of `other` lie strictly between the nodes of `c` and `c`,
    increasing in listing order; the group (latest-of) link to the leaves of `c` it hands out is ranked too. -/
theorem extend_keeps_ranking {w : World} {rk : Nat → Nat} (hc : Closed w) (h : Ranked w rk) (c other : Nat)
    (h1 : ∀ n ∈ listing (w.op other).graph, rk n < rk c)
    (h2 : ∀ e ∈ (w.op c).graph, ∀ n ∈ listing (w.op other).graph, rk e.node < rk n)
    (h3 : (listing (w.op other).graph).Pairwise (fun a b => rk a < rk b)) :
    Closed (w.extend c other) ∧ Ranked (w.extend c other) rk :=
  ⟨(extend_ranked hc h c other h1 h2 h3).2, (extend_ranked hc h c other h1 h2 h3).1⟩

open Qco.Defined in
/-- without the certificate definedness fails: `a = Rx180(0)`, `b = Wait(0)` whose links refer to each other —
    no fuel defines a start time, and the heap has no ranking. -/
theorem cyclic_undefined_witness :
    (∀ f, evStart cycWorld f 0 = none ∧ evStart cycWorld f 1 = none) ∧ ¬ Acyclic cycWorld :=
  ⟨cyc_undefined, cyc_not_acyclic⟩

/-! #### non-vacuity: the worked example of Lemmas/DefinedExample.lean

  `dxWorld` is built with `newCircuit / newLink / newOp / add`: a circuit `c` (id 0) containing `a = Rx90(1)`,
  the sub-circuit `s` (id 1, with `x = Rx180(0)`, `y = Ry90(0)` FOLLOWED_BY `x`), `d = DispersiveMeasure(1)` JOINED_END
  with `a`, and `b = CPhase(0,1)` FOLLOWED_BY `s`. -/

open Qco.Defined in
example : Ranked dxWorld (fun o => dxRank.getD o 0) ∧ (∀ o, dxRank.getD o 0 ≤ 4) ∧ Closed dxWorld :=
  ⟨dxWorld_ranked, by
    intro o
    by_cases ho : o < 7
    · have : o = 0 ∨ o = 1 ∨ o = 2 ∨ o = 3 ∨ o = 4 ∨ o = 5 ∨ o = 6 := by omega
      rcases this with rfl | rfl | rfl | rfl | rfl | rfl | rfl <;> decide
    · rw [getD_of_ge dxRank 0 (Nat.le_of_not_lt ho)]; omega, dxWorld_closed⟩

def dxStartT : List Int := [0, 0, 0, 8, 0, -8, 16]
def dxLeadT : List Int := [8, 0, 0, 0, 0, 0, 0]
def dxDurT : List Int := [32, 16, 8, 8, 8, 16, 8]

open Qco.Defined in
/-- the schedule of the example solves the relation equations. -/
theorem dxSol : Sol dxLit (fun o => dxStartT.getD o 0) (fun o => dxLeadT.getD o 0) (fun o => dxDurT.getD o 0)
    (fun l => (dxLit.lnk l).refs.head?) := by
  have hcases : ∀ o : Nat, o = 0 ∨ o = 1 ∨ o = 2 ∨ o = 3 ∨ o = 4 ∨ o = 5 ∨ o = 6 ∨ 7 ≤ o := by omega
  have hdef : ∀ o, 7 ≤ o → dxLit.op o = default := fun o ho => World.op_of_ge dxLit ho
  have hl0 : listing (dxLit.op 0).graph = [4, 1, 5, 6] := by rw [listing_lit _ (by decide)]; rfl
  have hh0 : heads (dxLit.op 0).graph = [4, 1] := by unfold heads; rw [sortedEntries_lit _ (by decide)]; rfl
  have hl1 : listing (dxLit.op 1).graph = [2, 3] := by rw [listing_lit _ (by decide)]; rfl
  have hh1 : heads (dxLit.op 1).graph = [2] := by unfold heads; rw [sortedEntries_lit _ (by decide)]; rfl
  refine ⟨?_, ?_, ?_, ?_, fun l _ => rfl, ?_⟩
  · intro o hc
    rcases hcases o with rfl | rfl | rfl | rfl | rfl | rfl | rfl | ho
    · exact absurd hc (by decide)
    · exact absurd hc (by decide)
    all_goals first
      | decide
      | (simp only [getD_of_ge dxLeadT 0 ho, getD_of_ge dxDurT 0 ho, hdef o ho]; decide)
  · intro o hc he
    rcases hcases o with rfl | rfl | rfl | rfl | rfl | rfl | rfl | ho
    all_goals first
      | exact absurd he (by decide)
      | exact absurd hc (by decide)
      | (rw [hdef o ho] at hc; exact absurd hc (by decide))
  · intro o hc he
    rcases hcases o with rfl | rfl | rfl | rfl | rfl | rfl | rfl | ho
    · rw [hl0, hh0]; decide
    · rw [hl1, hh1]; decide
    all_goals first
      | exact absurd hc (by decide)
      | (rw [hdef o ho] at hc; exact absurd hc (by decide))
  · intro o
    rcases hcases o with rfl | rfl | rfl | rfl | rfl | rfl | rfl | ho
    all_goals first
      | decide
      | (simp only [getD_of_ge dxStartT 0 ho, getD_of_ge dxDurT 0 ho, hdef o ho]; decide)
  · intro l hm
    have hnm : ∀ l, (dxLit.lnk l).multi = false := by
      intro l
      by_cases hl : l < 8
      · have : l = 0 ∨ l = 1 ∨ l = 2 ∨ l = 3 ∨ l = 4 ∨ l = 5 ∨ l = 6 ∨ l = 7 := by omega
        rcases this with rfl | rfl | rfl | rfl | rfl | rfl | rfl | rfl <;> decide
      · unfold World.lnk
        have : ¬ l < dxLit.links.size := hl
        simp [Array.getD, this]; rfl
    rw [hnm l] at hm; cases hm

open Qco.Defined in
/-- the example, end to end: every start time of the built heap is defined with the driver's fuel (by
    `start_defined_of_acyclic`) and equals the listed schedule (by `schedule_unique`): `d` JOINED_END with `a` starts at
    `-8 = 8 - 16`, the sub-circuit `s` at `0` with duration `16`, `b` behind it at `16`, the circuit lasts `32`. -/
theorem example_times_defined (o : Nat) :
    evStart dxWorld dxWorld.fuel o = some (dxStartT.getD o 0) ∧ evDur dxWorld dxWorld.fuel o = some (dxDurT.getD o 0) := by
  rw [dxWorld_eq]
  obtain ⟨hs, _, hd⟩ := start_defined_of_acyclic ⟨_, dxLit_ranked⟩ dxLit_closed o
  obtain ⟨s, hs⟩ := Option.isSome_iff_exists.mp hs
  obtain ⟨d, hd⟩ := Option.isSome_iff_exists.mp hd
  obtain ⟨_, _, uD, uS, _, _⟩ := schedule_unique dxSol dxLit.fuel
  rw [hs, hd, uS o s hs, uD o d hd]
  exact ⟨rfl, rfl⟩

open Qco.Defined in
example : Closed (dxLit.newOp { cls := .wait, qs := [0], link := 3 }).1 ∧
    Acyclic (dxLit.newOp { cls := .wait, qs := [0], link := 3 }).1 :=
  newOp_preserves dxLit_closed ⟨_, dxLit_ranked⟩ _ (by decide) (by decide) (by decide)

open Qco.Defined in
/-- the last step of the build program (`c.add(b)`, heap `dxS6`) meets the hypotheses of all four `add` theorems. -/
example : Closed dxS6 ∧ Ranked dxS6 (fun o => dxRank.getD o 0) ∧ 6 < dxS6.ops.size ∧ (dxS6.op 0).isComp = true ∧
    Unref dxS6 6 ∧ Unref dxS6 0 ∧ 6 ≠ 0 ∧ ¬ Reach dxS6 6 0 ∧ (∀ e ∈ (dxS6.op 0).graph, ¬ Reach dxS6 e.node 6) ∧
    dxRank.getD 6 0 < dxRank.getD 0 0 ∧ (∀ e ∈ (dxS6.op 0).graph, dxRank.getD e.node 0 < dxRank.getD 6 0) := by
  have hu6 : Unref dxS6 6 := unref_of_check dxS6 6 (by decide +kernel)
  have hu0 : Unref dxS6 0 := unref_of_check dxS6 0 (by decide +kernel)
  refine ⟨closed_of_check dxS6 (by decide +kernel), ranked_of_check dxS6 dxRank (by decide) (by decide +kernel), by decide, by decide,
    hu6, hu0, by decide, fun h => absurd (reach_unref hu0 h) (by decide), ?_, by decide, by decide⟩
  intro e he h
  have h6 : e.node = 6 := reach_unref hu6 h
  exact hu6 0 (Or.inr ⟨by decide, e, he, h6⟩)

/-- a heap for `extend`: `c` (id 0) with node `2`; `other` (id 1) with nodes `3` and `4` (`4` FOLLOWED_BY `3`). -/
def exExtend : World :=
  { ops := #[{ cls := .comp, graph := [⟨2, none, [0]⟩] },
             { cls := .comp, graph := [⟨3, none, [0]⟩, ⟨4, some 3, [0, 0]⟩] },
             { cls := .rx180, qs := [0], dur := .glob .mw, link := 1 },
             { cls := .rx180, qs := [0], dur := .glob .mw, link := 2 },
             { cls := .ry90, qs := [0], dur := .glob .mw, link := 3 }],
    links := #[{}, {}, {}, { refs := [3] }] }

open Qco.Defined in
example : Closed exExtend ∧ Ranked exExtend (fun o => [3, 3, 0, 1, 2].getD o 0) ∧
    (∀ n ∈ listing (exExtend.op 1).graph, [3, 3, 0, 1, 2].getD n 0 < [3, 3, 0, 1, 2].getD 0 0) ∧
    (∀ e ∈ (exExtend.op 0).graph, ∀ n ∈ listing (exExtend.op 1).graph,
      [3, 3, 0, 1, 2].getD e.node 0 < [3, 3, 0, 1, 2].getD n 0) ∧
    (listing (exExtend.op 1).graph).Pairwise (fun a b => [3, 3, 0, 1, 2].getD a 0 < [3, 3, 0, 1, 2].getD b 0) := by
  have hl : listing (exExtend.op 1).graph = [3, 4] := by rw [listing_lit _ (by decide)]; rfl
  rw [hl]
  exact ⟨closed_of_check _ (by decide +kernel), ranked_of_check _ _ (by decide) (by decide +kernel), by decide, by decide,
    by decide⟩

/-! #### `copy` and `add_sub_circuit` (Lemmas/DefinedCopy.lean) -/

open Qco.Defined in
/-- `copy` preserves the certificate, with no side condition: the copy allocates new objects only, a new object
    refers to copies completed earlier, every `add` inside the copy adds an object nothing refers to yet to a composite
    nothing refers to yet, and the fuel `depthFuel` never runs out on a closed acyclic heap.  The result is a new
    object to which nothing refers. -/
theorem copy_preserves {w : World} (hc : Closed w) (h : Acyclic w) (o : Nat) (ho : o < w.ops.size) :
    Closed (w.copy o).1 ∧ Acyclic (w.copy o).1 ∧ Unref (w.copy o).1 (w.copy o).2 ∧
      w.ops.size ≤ (w.copy o).2 ∧ (w.copy o).2 < (w.copy o).1.ops.size :=
  copy_certified hc h o ho

open Qco.Defined in
/-- the general form: `copyObj` with any lookup whose values exist and any fuel that is not exhausted below `o`
    (`depthOk`), with the frame (old objects and links untouched; old objects not named by the lookup stay
    unreferenced). -/
theorem copyObj_preserves {w : World} (hc : Closed w) (h : Acyclic w) (f o : Nat) (lk : Lookup)
    (hlk : LkOk w lk) (ho : o < w.ops.size) (hd : depthOk w f o) : CopyPost w lk (w.copyObj f o lk) :=
  copyObj_post f w o lk hc h hlk ho hd

/- full statement wanted for `addSub`:  Closed w → Acyclic w → c, sub existing, c composite → Closed ∧ Acyclic of
   `(w.addSub c sub).1`.  Proved (i) in full for heaps without group links (`addSub_preserves`, below), and (ii) for
   arbitrary heaps with the extra hypothesis `hnc`: in the heap after the copy, the copy does not depend on `c`
   (`addSub_preserves_partial`).  With group links the copy can depend on `c` through the initial lookup entry
   `sub ↦ c`: a kept group link of a node inside `sub` one of whose members is value-equal to `sub` (conflation R3). -/
open Qco.Defined in
theorem addSub_preserves_partial {w : World} (hc : Closed w) (h : Acyclic w) (c sub : Nat) (hcl : c < w.ops.size)
    (hsub : sub < w.ops.size) (hcomp : (w.op c).isComp = true)
    (hnc : ¬ Reach (w.copyObj w.depthFuel sub [(w.eqKey sub, c)]).1
      (w.copyObj w.depthFuel sub [(w.eqKey sub, c)]).2.1 c) :
    Closed (w.addSub c sub).1 ∧ Acyclic (w.addSub c sub).1 :=
  addSub_certified hc h c sub hcl hsub hcomp hnc

/-- a heap for `addSub`: circuit `c` (id 0) with node `3`, circuit `sub` (id 1) with node `2`. -/
def exSub : World :=
  { ops := #[{ cls := .comp, graph := [⟨3, none, [0]⟩] },
             { cls := .comp, graph := [⟨2, none, [0]⟩] },
             { cls := .rx180, qs := [0], dur := .glob .mw, link := 1 },
             { cls := .ry90, qs := [1], dur := .glob .mw, link := 2 }],
    links := #[{}, {}, {}] }

open Qco.Defined in
theorem exSub_certified : Certified exSub :=
  ⟨closed_of_check _ (by decide +kernel), ⟨_, ranked_of_check exSub [1, 1, 0, 0] (by decide) (by decide +kernel)⟩,
    singleLinks_of_check _ (by decide +kernel)⟩

open Qco.Defined in
example : Closed exSub ∧ Acyclic exSub ∧ 0 < exSub.ops.size ∧ 1 < exSub.ops.size ∧ (exSub.op 0).isComp = true ∧
    ¬ Reach (exSub.copyObj exSub.depthFuel 1 [(exSub.eqKey 1, 0)]).1
      (exSub.copyObj exSub.depthFuel 1 [(exSub.eqKey 1, 0)]).2.1 0 := by
  refine ⟨exSub_certified.closed, exSub_certified.acyclic, by decide, by decide, by decide, ?_⟩
  intro hr
  have hu : Unref (exSub.copyObj exSub.depthFuel 1 [(exSub.eqKey 1, 0)]).1 0 :=
    unref_of_check _ 0 (by decide +kernel)
  have h0 := reach_unref hu hr
  have h4 : (exSub.copyObj exSub.depthFuel 1 [(exSub.eqKey 1, 0)]).2.1 = 4 := by decide +kernel
  rw [h4] at h0; cases h0

open Qco.Defined in
/-- the copy of the sub-circuit `s` of the worked example is certified. -/
example : Closed (dxLit.copy 1).1 ∧ Acyclic (dxLit.copy 1).1 :=
  ⟨(copy_preserves dxLit_closed ⟨_, dxLit_ranked⟩ 1 (by decide)).1,
   (copy_preserves dxLit_closed ⟨_, dxLit_ranked⟩ 1 (by decide)).2.1⟩

/-! #### heaps without group links: every build step of the driver except `apply` / `flatten` keeps the certificate

  `Certified w`: closed, acyclic, every link is a plain relation link (`multi = false`, at most one reference).
  For a plain link `addToGraph` leaves references to nodes of the graph only (a kept explicit link refers to a node
  of the graph, otherwise the link is replaced), so what the added object referred to before does not matter. -/

open Qco.Defined in
/-- `add_sub_circuit` preserves the certificate on heaps without group links, with no side condition. -/
theorem addSub_preserves {w : World} (h : Certified w) (c sub : Nat) (hcl : c < w.ops.size)
    (hsub : sub < w.ops.size) (hcomp : (w.op c).isComp = true) : Certified (w.addSub c sub).1 :=
  addSub_certified' h c sub hcl hsub hcomp

open Qco.Defined in
/-- the driver's `op` command (allocate the plain link `L`, allocate the operation with that link, `add` it to
    circuit `c`) preserves the certificate — whatever existing object `L` refers to and wherever `c` sits. -/
theorem op_step_preserves {w : World} (h : Certified w) (L : Link) (op : Op) (c : Nat) (hL : SingleLink L)
    (hLr : ∀ r ∈ L.refs, r < w.ops.size) (hopl : op.link = w.links.size) (hopg : op.graph = [])
    (hcl : c < w.ops.size) (hcomp : (w.op c).isComp = true) :
    Certified (((w.newLink L).1.newOp op).1.add c w.ops.size) :=
  opStep_certified h L op c hL hLr hopl hopg hcl hcomp

open Qco.Defined in
/-- the empty heap, a new circuit and `copy` keep it as well. -/
theorem certified_steps :
    Certified ({} : World) ∧
    (∀ (w : World) (rep : Rep), Certified w → Certified (w.newCircuit rep).1) ∧
    (∀ (w : World) (o : Nat), Certified w → o < w.ops.size → Certified (w.copy o).1) :=
  ⟨certified_empty, fun _ rep h => newCircuit_certified h rep, fun _ o h ho => copy_certified_single h o ho⟩

open Qco.Defined in
/-- every heap built by `new` / `op` (plain relations) / `sub` / `copy` has all its times defined with the driver's
    fuel, and uniquely so. -/
theorem certified_times_defined {w : World} (h : Certified w) (o : Nat) :
    ∃ s d, evStart w w.fuel o = some s ∧ evDur w w.fuel o = some d ∧ evEnd w w.fuel o = some (s + d) ∧
      ∀ s', Start w o s' → s' = s :=
  times_defined h.acyclic h.closed o

open Qco.Defined in
/-- non-vacuity of `op_step_preserves`: the last step of the worked example (`b = CPhase(0,1); c.add(b)` on the heap
    `dxS5'`) is such a step and yields the final heap `dxLit`. -/
example : Certified dxS5' ∧ ((dxS5'.newLink {}).1.newOp { cls := .cphase, qs := [0, 1], dur := .glob .fl, link := 6 }).1.add 0
    dxS5'.ops.size = dxLit ∧ Certified dxLit := by
  have hC : Certified dxS5' := ⟨closed_of_check _ (by decide +kernel),
    ⟨_, ranked_of_check dxS5' [4, 2, 0, 1, 0, 1] (by decide) (by decide +kernel)⟩, singleLinks_of_check _ (by decide +kernel)⟩
  refine ⟨hC, dxStep6, ?_⟩
  have := op_step_preserves hC {} { cls := .cphase, qs := [0, 1], dur := .glob .fl, link := 6 } 0 ⟨rfl, by decide⟩
    (fun r hr => by cases hr) (by decide) rfl (by decide) (by decide)
  rw [show ((dxS5'.newLink {}).1.newOp { cls := .cphase, qs := [0, 1], dur := .glob .fl, link := 6 }).1.add 0
    dxS5'.ops.size = dxLit from dxStep6] at this
  exact this

open Qco.Defined in
/-- non-vacuity of `addSub_preserves`. -/
example : Certified exSub ∧ 0 < exSub.ops.size ∧ 1 < exSub.ops.size ∧ (exSub.op 0).isComp = true :=
  ⟨exSub_certified, by decide, by decide, by decide⟩

/-! #### unrolling (`apply_modifiers_to_self`) keeps the certificate (Lemmas/DefinedUnrollCopy.lean, DefinedUnrollExtend.lean, DefinedUnroll.lean)

  `TreeBelow w f c` (Lemmas/TreeHeap.lean): the heap below `c` is a tree of depth ≤ `f`.
  `DefinedUnroll.SingleUnder w f c`: no object strictly below `c` carries a group (latest-of) link — true of every heap
  built with `new / op (plain relations) / sub / copy` (`Defined.Certified`, see `certified_steps`, `op_step_preserves`,
  `addSub_preserves`, `DefinedUnroll.addLeaf_certified`); the link of `c` itself and everything outside the tree are
  arbitrary.  `DefinedUnroll.LinksExt w w'`: the link table only grew, no existing link object was changed.

  Why it holds: a `copy()` of such a tree is a component of its own (new objects depend on new objects only) in which
  every node strictly below the root carries a plain link to nodes of its OWN graph (`add_to_graph` validates or replaces
  a plain link); `extend` hands the top-level nodes of the copy the group link to the leaves of `c` or validates /
  replaces their plain link against the graph of `c`.  Ranking: old objects keep their (spread) rank, a new object gets
  the listing position of the top-level node it sits below, then its rank in the copy — between the nodes of `c` and `c`.

  Full statement wanted: `TreeBelow w f c → Closed w → Acyclic w → Acyclic (w.applyModifiers w.depthFuel c) ∧ Closed …`.
  Proved with ONE extra hypothesis, `SingleUnder w f c` (no condition on `f`: in a closed acyclic heap every tree is a
  tree at a depth bound within `depthFuel`, `DefinedUnroll.tree_within_fuel`).  What is missing without it: the proof needs
  that in a `copy()` every node strictly below the new root refers to nodes of its own graph only; `add_to_graph` guarantees
  this for PLAIN links (validated or replaced), but of a GROUP link only the picked member is validated, and the members
  come out of the value-keyed lookup (conflation R3), so a group link strictly below `c` could leave its graph and
  `extend` could then hang an earlier-listed sibling under a later one that reaches it.  Group links are created by
  `extend` only (members = leaves of the extended graph); whether the statement itself fails without the hypothesis is
  open (no counterexample heap was found: references of a copy only point to earlier copies).  For
  heaps that were already unrolled (all counts `fixed 1`, group links present) see `applyModifiers_again_preserves_acyclic`.
  Not covered: `flatten` (which can create a cycle, R14). -/

open Qco.Defined Qco.DefinedUnroll in
/-- `apply_modifiers` preserves the acyclicity certificate on a tree-shaped heap below `c` without group links
    strictly below `c`: the unrolled heap is closed and acyclic. -/
theorem applyModifiers_preserves_acyclic {w : World} {f c : Nat} (ht : TreeBelow w f c)
    (hc : Closed w) (ha : Acyclic w) (hs : SingleUnder w f c) :
    Acyclic (w.applyModifiers w.depthFuel c) ∧ Closed (w.applyModifiers w.depthFuel c) := by
  obtain ⟨h1, h2, _⟩ := applyModifiers_certified_driver ht hc ha hs
  exact ⟨h2, h1⟩

open Qco.Defined Qco.DefinedUnroll in
/-- the same for any recursion fuel `g ≥ f`, with the frame: no existing link object is changed. -/
theorem applyModifiers_preserves_certificate {w : World} {f c g : Nat} (ht : TreeBelow w f c) (hg : f ≤ g)
    (hf : f ≤ w.depthFuel) (hc : Closed w) (ha : Acyclic w) (hs : SingleUnder w f c) :
    Closed (w.applyModifiers g c) ∧ Acyclic (w.applyModifiers g c) ∧ LinksExt w (w.applyModifiers g c) :=
  applyModifiers_certified f w c g ht hg hf hc ha hs

open Qco.Defined Qco.DefinedUnroll in
/-- API-built heaps: on a certified heap (closed, acyclic, no group link — kept by `new / op / sub / copy`) unrolling
    any tree keeps the heap closed and acyclic. -/
theorem applyModifiers_preserves_acyclic_of_certified {w : World} {f c : Nat} (h : Certified w)
    (ht : TreeBelow w f c) :
    Acyclic (w.applyModifiers w.depthFuel c) ∧ Closed (w.applyModifiers w.depthFuel c) :=
  applyModifiers_preserves_acyclic ht h.closed h.acyclic (singleUnder_of_certified h f c)

open Qco.Defined Qco.DefinedUnroll in
/-- unrolling again: on a tree all of whose counts are `fixed 1` (what `apply_modifiers` leaves behind, group links
    included) a further `apply_modifiers` only allocates copies and keeps the certificate — no condition on the links. -/
theorem applyModifiers_again_preserves_acyclic {w : World} {f c : Nat} (ht : TreeBelow w f c) (ho : AllOnes w f c)
    (hf : f ≤ w.depthFuel) (hc : Closed w) (ha : Acyclic w) :
    Acyclic (w.applyModifiers w.depthFuel c) ∧ Closed (w.applyModifiers w.depthFuel c) := by
  obtain ⟨h1, h2⟩ := applyModifiers_ones_certified f w c w.depthFuel ht ho hf hf hc ha
  exact ⟨h2, h1⟩

open Qco.Defined Qco.DefinedUnroll in
/-- … in particular unrolling twice keeps it. -/
theorem applyModifiers_twice_preserves_acyclic {w : World} {f c : Nat} (ht : TreeBelow w f c) (hf : f ≤ w.depthFuel)
    (hc : Closed w) (ha : Acyclic w) (hs : SingleUnder w f c) (g g' : Nat) (hg : f ≤ g) (hg' : f ≤ g') :
    Acyclic ((w.applyModifiers g c).applyModifiers g' c) ∧ Closed ((w.applyModifiers g c).applyModifiers g' c) := by
  obtain ⟨h1, h2⟩ := applyModifiers_twice_certified ht hf hc ha hs g g' hg hg'
  exact ⟨h2, h1⟩

open Qco.Defined Qco.DefinedUnroll in
/-- every time of an unrolled circuit is defined with the driver's fuel, and uniquely so: start, duration and
    end (= start + duration) of every object of the heap after `apply_modifiers`. -/
theorem unrolled_times_defined {w : World} {f c : Nat} (ht : TreeBelow w f c)
    (hc : Closed w) (ha : Acyclic w) (hs : SingleUnder w f c) (o : Nat) :
    ∃ s d, evStart (w.applyModifiers w.depthFuel c) (w.applyModifiers w.depthFuel c).fuel o = some s ∧
      evDur (w.applyModifiers w.depthFuel c) (w.applyModifiers w.depthFuel c).fuel o = some d ∧
      evEnd (w.applyModifiers w.depthFuel c) (w.applyModifiers w.depthFuel c).fuel o = some (s + d) ∧
      ∀ s', Start (w.applyModifiers w.depthFuel c) o s' → s' = s := by
  obtain ⟨ha', hc'⟩ := applyModifiers_preserves_acyclic ht hc ha hs
  exact times_defined ha' hc' o

open Qco.Defined Qco.DefinedUnroll in
/-- non-vacuity: the example heap `exG` of Lemmas/TreeBuild.lean — `top` (count 1) ⊃ `mid` (count 2) = [measure,
    `inner` (count 3) = [Rx180]], built with `newCircuit / newOp / add / addSub` — meets every hypothesis (nesting
    depth 2 below `top`, 2 × (1 + 3) leaf operations after unrolling). -/
example : TreeBelow exG.1 4 exF.2 ∧ 4 ≤ exG.1.depthFuel ∧ Closed exG.1 ∧ Acyclic exG.1 ∧ SingleUnder exG.1 4 exF.2 ∧
    Certified exG.1 ∧ (exG.1.op exF.2).isComp = true ∧
    (exG.1.expand 4 exF.2).Perm [exM.sig, exX.sig, exX.sig, exX.sig, exM.sig, exX.sig, exX.sig, exX.sig] :=
  ⟨exG_tree.1, exG_tree.2.1, exG_certified.closed, exG_certified.acyclic, singleUnder_of_certified exG_certified 4 exF.2,
    exG_certified, exG_tree.2.2.1, exG_tree.2.2.2⟩

open Qco.Defined Qco.DefinedUnroll in
/-- … hence every time of the unrolled example is defined with the driver's fuel. -/
example (o : Nat) : (evStart (exG.1.applyModifiers exG.1.depthFuel exF.2)
    (exG.1.applyModifiers exG.1.depthFuel exF.2).fuel o).isSome = true := by
  obtain ⟨s, _, hs, _⟩ := unrolled_times_defined exG_tree.1 exG_certified.closed exG_certified.acyclic
    (singleUnder_of_certified exG_certified 4 exF.2) o
  rw [hs]; rfl

open Qco.Defined Qco.DefinedUnroll in
/-- non-vacuity of `applyModifiers_again_preserves_acyclic`: the unrolled example has all counts `fixed 1`. -/
example : TreeBelow (exG.1.applyModifiers exG.1.depthFuel exF.2) 4 exF.2 ∧
    AllOnes (exG.1.applyModifiers exG.1.depthFuel exF.2) 4 exF.2 ∧
    4 ≤ (exG.1.applyModifiers exG.1.depthFuel exF.2).depthFuel ∧
    Closed (exG.1.applyModifiers exG.1.depthFuel exF.2) ∧ Acyclic (exG.1.applyModifiers exG.1.depthFuel exF.2) := by
  have us := applyModifiers_tree 4 exG.1 exF.2 exG.1.depthFuel exG_tree.1 exG_tree.2.1 exG_tree.2.1
  obtain ⟨h1, h2⟩ := applyModifiers_preserves_acyclic exG_tree.1 exG_certified.closed
    exG_certified.acyclic (singleUnder_of_certified exG_certified 4 exF.2)
  refine ⟨us.tree, us.ones, ?_, h2, h1⟩
  have := us.size
  have := exG_tree.2.1
  unfold World.depthFuel at *
  omega

end Qco.C01
