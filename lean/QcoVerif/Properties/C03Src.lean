import QcoVerif.Properties.C03
import QcoVerif.Lemmas.BuilderSrc
import QcoVerif.Lemmas.FacadeSrc
/-
  C03 — tie to the SOURCE TEXT (DESIGN.md §2.3b).  Kept in a file of its own that nothing imports: a change of the translated
  source functions breaks THESE obligations only, not the build of the property files that import Properties/C03.lean.
-/
namespace Qco.C03
open Qco

/-! ### tie to the SOURCE TEXT of the builder (DESIGN.md §2.3b; proofs in Lemmas/BuilderSrc.lean)

`decomposed_operations` (the listing).  The functions act on objects: the fragment records such effects (`Py.callEffects`) instead of executing them. -/

section BuilderSourceTie
open Qco.Py Qco.Gen.PySrc Qco.BuilderSrc

/-- **`decomposed_operations`**: hands the enclosing link to exactly the relation-less nodes (an effect on those operations) and returns the concatenation of the nodes' own decompositions — the step of `World.decomposed`. -/
theorem decomposed_matches_source (nodes : List (Nat × Bool × List Nat)) :
    callFn builderEnv Composite_decomposed [compSelf nodes] = nats ((nodes.map (·.2.2)).flatten) ∧
    callEffects builderEnv Composite_decomposed [compSelf nodes] = decEffects nodes :=
  BuilderSrc.decomposed_matches_source nodes

end BuilderSourceTie

/-! ### the facade `DeclarativeCircuit` as written (Lemmas/FacadeSrc.lean; DESIGN.md §2.3b) -/

section Facade
open Qco.Py Qco.Gen.PySrc Qco.BuilderSrc Qco.FacadeSrc

/-- **`operations`** is the structure's `decomposed_operations()` — nothing kept per wrapper (what seeded change C03-m6 altered). -/
theorem facade_operations_matches_source (ops : Val) (h : ops = .list [.obj "Operation" 7 []]) :
    callFn builderEnv Decl_operations [declObj 1 (stObj 2 [("decomposed_operations()", ops)]) addedObj regObj] = ops ∧
    Decl_operations.decorators = ["property"] := by
  subst h
  exact ⟨by py_simp [Decl_operations, declObj, stObj], rfl⟩

/-- **`duration`** is the structure's duration. -/
theorem facade_duration_matches_source (d : Int) :
    callFn builderEnv Decl_duration [declObj 1 (stObj 2 [("duration", .int d)]) addedObj regObj] = .int d := by
  py_simp [Decl_duration, declObj, stObj]

end Facade

end Qco.C03
