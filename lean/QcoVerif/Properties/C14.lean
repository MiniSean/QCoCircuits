import QcoVerif.Lemmas.Noise
import QcoVerif.Lemmas.PauliError
/-
  C14 — noise dressing only adds noise, with the configured strengths.

  About `Qco.Noise.dress` (Model/Noise.lean), the function the driver module `noise` executes and
  `harness/c14.py` compares with `apply_noise` instruction by instruction.
-/
namespace Qco.C14
open Qco.Noise Qco.Noise.Analysis

/-! ## blocks: `split_instruction_blocks` -/

def TickTerminated (b : List Instr) : Prop :=
  ∃ b0 t, b = b0 ++ [t] ∧ isTick t = true ∧ ∀ i ∈ b0, isTick i = false

def TickFree (b : List Instr) : Prop := ∀ i ∈ b, isTick i = false

theorem splitBlocks_flatten (l : List Instr) : (splitBlocks l).flatten = l := by
  induction l with
  | nil => rfl
  | cons i rest ih =>
    obtain ⟨b, bs, h, e⟩ := splitBlocks_cons i rest
    rw [h] at ih
    rw [e]
    split <;> simpa using ih

/-- the blocks are maximal TICK-terminated segments, then one trailing TICK-free (possibly empty) block. -/
theorem splitBlocks_shape (l : List Instr) :
    ∃ bs last, splitBlocks l = bs ++ [last] ∧ (∀ b ∈ bs, TickTerminated b) ∧ TickFree last := by
  induction l with
  | nil => exact ⟨[], [], rfl, by simp, by simp [TickFree]⟩
  | cons i rest ih =>
    obtain ⟨bs, last, h, hbs, hlast⟩ := ih
    obtain ⟨b, bs', h', e⟩ := splitBlocks_cons i rest
    rw [e]
    by_cases ht : isTick i = true
    · rw [if_pos ht, ← h', h]
      exact ⟨[i] :: bs, last, rfl, List.forall_mem_cons.mpr ⟨⟨[], i, rfl, ht, by simp⟩, hbs⟩, hlast⟩
    · rw [if_neg ht]
      have ht' : isTick i = false := by simpa using ht
      rw [h] at h'
      cases bs with
      | nil =>
        obtain ⟨rfl, rfl⟩ := List.cons.inj h'
        exact ⟨[], i :: last, rfl, by simp, List.forall_mem_cons.mpr ⟨ht', hlast⟩⟩
      | cons b2 bs2 =>
        obtain ⟨rfl, rfl⟩ := List.cons.inj h'
        obtain ⟨b0, t, e0, h1, h2⟩ := hbs b2 List.mem_cons_self
        refine ⟨(i :: b2) :: bs2, last, rfl, List.forall_mem_cons.mpr ⟨?_, fun x hx => hbs x (List.mem_cons_of_mem _ hx)⟩, hlast⟩
        exact ⟨i :: b0, t, by rw [e0]; rfl, h1, List.forall_mem_cons.mpr ⟨ht', h2⟩⟩

theorem splitBlocks_length (l : List Instr) : (splitBlocks l).length = (l.filter isTick).length + 1 := by
  induction l with
  | nil => rfl
  | cons i rest ih =>
    obtain ⟨b, bs, h, e⟩ := splitBlocks_cons i rest
    rw [h] at ih
    rw [e, List.filter_cons]
    split <;> simpa using ih

/-- the loop with the accumulator `sub_set`, as written in the code, computes the same blocks. -/
theorem splitBlocksLoop_eq (cur l : List Instr) :
    splitBlocksLoop cur l = (match splitBlocks l with | b :: bs => (cur ++ b) :: bs | [] => [cur]) := by
  induction l generalizing cur with
  | nil => simp [splitBlocksLoop, splitBlocks]
  | cons i rest ih =>
    obtain ⟨b, bs, h, e⟩ := splitBlocks_cons i rest
    rw [e]
    unfold splitBlocksLoop
    split <;> simp [ih, h]

theorem splitBlocksLoop_nil (l : List Instr) : splitBlocksLoop [] l = splitBlocks l := by
  rw [splitBlocksLoop_eq]
  split
  · rename_i h; exact h.symm
  · rename_i h; exact absurd h (splitBlocks_ne_nil l)

/-- `max(…, default=0)`. -/
theorem maxDefault_ge (l : List Int) (y : Int) (hy : y ∈ l) : y ≤ Noise.maxDefault l := by
  cases l with
  | nil => simp at hy
  | cons x xs =>
    obtain ⟨h1, h2, -⟩ := foldl_max_spec xs x
    rcases List.mem_cons.1 hy with rfl | hy
    · exact h1
    · exact h2 y hy

theorem maxDefault_mem (l : List Int) (h : l ≠ []) : Noise.maxDefault l ∈ l := by
  cases l with
  | nil => exact absurd rfl h
  | cons x xs =>
    obtain ⟨-, -, h3⟩ := foldl_max_spec xs x
    rcases h3 with h3 | h3
    · simp [Noise.maxDefault, h3]
    · simp [Noise.maxDefault, h3]

theorem blockDuration_nil (s : Settings) : blockDuration s [] = 0 := rfl

theorem blockDuration_ge (s : Settings) (b : List Instr) (i : Instr) (hi : i ∈ b) :
    s.duration i.name ≤ blockDuration s b :=
  maxDefault_ge _ _ (List.mem_map.2 ⟨i, hi, rfl⟩)

theorem blockDuration_attained (s : Settings) (b : List Instr) (h : b ≠ []) :
    ∃ i ∈ b, blockDuration s b = s.duration i.name := by
  have := maxDefault_mem (b.map (fun i => s.duration i.name)) (by simpa using h)
  obtain ⟨i, hi, e⟩ := List.mem_map.1 this
  exact ⟨i, hi, e.symm⟩

/-- duration lookup: the five names the table answers to — MEASUREMENTS INCLUDED under the name Stim reports. -/
theorem duration_lookup (s : Settings) :
    s.duration "M" = s.durations.mz ∧ s.duration "MZ" = s.durations.mz ∧ s.duration "CZ" = s.durations.cz ∧
    s.duration "H" = s.durations.h ∧ s.duration "X" = s.durations.x ∧ s.duration "Y" = 0 ∧ s.duration "TICK" = 0 := by
  refine ⟨?_, ?_, ?_, ?_, ?_, ?_, ?_⟩ <;>
    simp [Settings.duration, DurParams.table, List.lookup]

/-- so a block containing a measurement idles for at least half the measurement duration. -/
theorem measurement_block_duration (s : Settings) (b : List Instr) (i : Instr) (hi : i ∈ b) (hm : i.name = "M") :
    s.durations.mz ≤ blockDuration s b := by
  have := blockDuration_ge s b i hi
  rw [hm, (duration_lookup s).1] at this
  exact this

theorem noiseOf_mapped (s : Settings) (q : Nat) (id : String) (n : QNoise)
    (h1 : s.indexMap.lookup q = some id) (h2 : s.individual.lookup id = some n) : s.noiseOf q = n := by
  simp [Settings.noiseOf, h1, h2]

theorem noiseOf_default (s : Settings) (q : Nat)
    (h : s.indexMap.lookup q = none ∨ ∃ id, s.indexMap.lookup q = some id ∧ s.individual.lookup id = none) :
    s.noiseOf q = s.default := by
  rcases h with h | ⟨id, h1, h2⟩
  · simp [Settings.noiseOf, h]
  · simp [Settings.noiseOf, h1, h2]

example : ∃ (s : Settings) (q : Nat) (id : String) (n : QNoise),
    s.indexMap.lookup q = some id ∧ s.individual.lookup id = some n ∧ n ≠ s.default :=
  ⟨{ default := ⟨⟨1, 1⟩, ⟨2, 1⟩, ⟨0, 1⟩⟩, individual := [("D1", ⟨⟨5, 1⟩, ⟨7, 1⟩, ⟨3, 100⟩⟩)], indexMap := [(1, "D1")],
     durations := ⟨400, 60, 20, 20⟩ }, 1, "D1", ⟨⟨5, 1⟩, ⟨7, 1⟩, ⟨3, 100⟩⟩, by decide⟩

/-! ## qubit targets: `sorted(set(…))` -/

theorem sortDedup_mem (l : List Nat) (y : Nat) : y ∈ sortDedup l ↔ y ∈ l := by
  induction l with
  | nil => simp [sortDedup]
  | cons x xs ih =>
    have : sortDedup (x :: xs) = insertNat x (sortDedup xs) := rfl
    rw [this, mem_insertNat, ih]; simp

theorem sortDedup_sorted (l : List Nat) : (sortDedup l).Pairwise (· < ·) := by
  induction l with
  | nil => simp [sortDedup]
  | cons x xs ih => exact insertNat_sorted x _ ih

/-- the idle noise is placed on exactly the qubits some non-annotation instruction names, ascending. -/
theorem allTargets_spec (c : List Instr) :
    (allTargets c).Pairwise (· < ·) ∧ ∀ q, q ∈ allTargets c ↔ ∃ i ∈ c, q ∈ i.qubits := by
  refine ⟨sortDedup_sorted _, fun q => ?_⟩
  simp [allTargets, sortDedup_mem, List.mem_flatMap]

theorem wrapBlock_eq (noise : Nat → Instr) (ts : List Nat) (b : List Instr) :
    wrapBlock noise ts b = ts.reverse.map noise ++ b ++ ts.map noise := by
  induction ts generalizing b with
  | nil => simp [wrapBlock]
  | cons q ts ih =>
    have : wrapBlock noise (q :: ts) b = wrapBlock noise ts ([noise q] ++ b ++ [noise q]) := rfl
    rw [this, ih]; simp

/-- **idle_structure.** The dressed circuit is, block by block (blocks as in `splitBlocks_shape`, taken of the
    measurement-dressed circuit): one idle-noise instruction per target qubit in DESCENDING order, the block,
    one per target qubit in ASCENDING order (the code wraps in ascending order, innermost first); the parameter
    of every noise instruction of a block is `d = blockDuration` (the code uses `t = d/2`, see `Arg.eval`) and
    the qubit's own `T1`, `T2`. -/
theorem idle_structure (s : Settings) (c out : List Instr) (h : dress s c = some out) :
    out = (splitBlocks (measDress s c)).flatMap (fun b =>
      (allTargets (measDress s c)).reverse.map (noiseInstr s (blockDuration s b)) ++ b ++
      (allTargets (measDress s c)).map (noiseInstr s (blockDuration s b))) := by
  unfold dress at h
  split at h
  · injection h with h
    rw [← h, idleDress]
    congr 1
    funext b
    exact wrapBlock_eq _ _ _
  · exact absurd h (by simp)

/-- where the code answers at all: every instruction outside the three annotation names has only plain qubit
    targets and at most one argument (otherwise `int(token)` raises). -/
theorem dress_isSome_iff (s : Settings) (c : List Instr) :
    (dress s c).isSome = true ↔ ∀ i ∈ c, i.parseable = true := by
  unfold dress
  split
  · rename_i h; simpa using h
  · rename_i h; simpa using h

/-! ### strip -/

/-- remove noise and measurement arguments, after un-fusing. -/
def clean (l : List Instr) : List Instr := strip (flatten l)

theorem clean_append (a b : List Instr) : clean (a ++ b) = clean a ++ clean b := by
  simp [clean, flatten, strip]

theorem clean_flatMap {α} (L : List α) (g : α → List Instr) : clean (L.flatMap g) = L.flatMap (fun x => clean (g x)) := by
  induction L with
  | nil => rfl
  | cons x xs ih => simp [List.flatMap_cons, clean_append, ih]

theorem clean_map {α} (L : List α) (f : α → Instr) : clean (L.map f) = L.flatMap (fun x => clean [f x]) := by
  rw [List.map_eq_flatMap, clean_flatMap]

theorem clean_noiseInstr (s : Settings) (d : Int) (q : Nat) : clean [noiseInstr s d q] = [] := by
  simp [clean, flatten, strip, splitTargets, noiseInstr, arity_noise, stripInstr, isNoise_noise]

theorem clean_M (ts : List Target) (as : List Arg) :
    clean [⟨"M", ts, as⟩] = ts.map (fun t => ⟨"M", [t], []⟩) := by
  simp [clean, flatten, strip, splitTargets, arity_M, stripInstr, isNoise_M, isMeasure, List.filterMap_map,
    Function.comp_def]

theorem clean_noise (s : Settings) (d : Int) (ts : List Nat) : clean (ts.map (noiseInstr s d)) = [] := by
  simp [clean_map, clean_noiseInstr]

theorem clean_idleDress (s : Settings) (m : List Instr) : clean (idleDress s m) = clean m := by
  unfold idleDress
  rw [clean_flatMap]
  have : ∀ b, clean (wrapBlock (noiseInstr s (blockDuration s b)) (allTargets m) b) = clean b := by
    intro b
    rw [wrapBlock_eq, clean_append, clean_append, clean_noise, clean_noise]
    simp
  simp only [this]
  conv_rhs => rw [← splitBlocks_flatten m]
  rw [List.flatten_eq_flatMap, clean_flatMap]
  rfl

theorem clean_measDressInstr (s : Settings) (i : Instr) (hp : i.parseable = true) :
    clean (measDressInstr s i) = clean [i] := by
  unfold measDressInstr
  split
  · rename_i hm
    obtain ⟨name, ts, as⟩ := i
    have hn : name = "M" := by simpa [isMeasure] using hm
    subst hn
    have hq : ts.all Target.isQ = true := by
      simp only [Instr.parseable, show isAnnotation "M" = false by decide +kernel, Bool.false_or, Bool.and_eq_true] at hp
      exact hp.1
    have hqs : Instr.qubits ⟨"M", ts, as⟩ = ts.filterMap Target.q? := by
      simp [Instr.qubits, show isAnnotation "M" = false by decide +kernel]
    rw [clean_map, clean_M, hqs]
    conv_rhs => rw [← map_q_filterMap_q? ts hq]
    simp only [measInstr, clean_M, List.map_cons, List.map_nil, List.map_map]
    exact List.map_eq_flatMap.symm
  · rfl

theorem clean_measDress (s : Settings) (c : List Instr) (hp : ∀ i ∈ c, i.parseable = true) :
    clean (measDress s c) = clean c := by
  induction c with
  | nil => rfl
  | cons i rest ih =>
    have : measDress s (i :: rest) = measDressInstr s i ++ measDress s rest := by simp [measDress]
    rw [this, clean_append, clean_measDressInstr s i (hp i (by simp)), ih (fun j hj => hp j (by simp [hj])),
      ← clean_append]
    rfl

/-- **strip_dress.** For EVERY instruction list and EVERY settings on which the code answers: removing the noise
    instructions and the measurement arguments from the dressed circuit gives back the (un-fused) flattened
    input, itself cleaned the same way … -/
theorem strip_dress (s : Settings) (c out : List Instr) (h : dress s c = some out) :
    strip (flatten out) = strip (flatten c) := by
  have hp : ∀ i ∈ c, i.parseable = true := (dress_isSome_iff s c).1 (by rw [h]; rfl)
  unfold dress at h
  split at h
  · injection h with h
    rw [← h]
    exact (clean_idleDress s _).trans (clean_measDress s c hp)
  · exact absurd h (by simp)

/-- a circuit the exporter produces: no noise channel, no measurement argument. -/
def Noiseless (c : List Instr) : Prop := ∀ i ∈ c, isNoise i.name = false ∧ (isMeasure i.name = true → i.args = [])

theorem strip_noiseless (c : List Instr) (h : Noiseless c) : strip c = c := by
  induction c with
  | nil => rfl
  | cons i rest ih =>
    obtain ⟨h1, h2⟩ := h i (by simp)
    have hr : Noiseless rest := fun j hj => h j (by simp [hj])
    simp only [strip, List.filterMap_cons, stripInstr, h1, Bool.false_eq_true, ↓reduceIte]
    by_cases hm : isMeasure i.name = true
    · have : ({ i with args := [] } : Instr) = i := by
        obtain ⟨n, t, a⟩ := i; simp at h2 ⊢; exact h2 hm
      simp only [hm, ↓reduceIte, this]; congr 1; exact ih hr
    · simp only [hm, Bool.false_eq_true, ↓reduceIte]; congr 1; exact ih hr

theorem flatten_noiseless (c : List Instr) (h : Noiseless c) : Noiseless (flatten c) := by
  intro j hj
  obtain ⟨i, hi, hji⟩ := List.mem_flatMap.1 hj
  have hn : j.name = i.name ∧ j.args = i.args := by
    unfold splitTargets at hji
    split at hji
    · simp at hji; subst hji; exact ⟨rfl, rfl⟩
    · obtain ⟨t, -, e⟩ := List.mem_map.1 hji; subst e; exact ⟨rfl, rfl⟩
    · obtain ⟨t, -, e⟩ := List.mem_map.1 hji; subst e; exact ⟨rfl, rfl⟩
  rw [hn.1, hn.2]; exact h i hi

/-- … which for an exporter-produced (noiseless) input is exactly the split-target flattened input. -/
theorem strip_dress_noiseless (s : Settings) (c out : List Instr) (h : dress s c = some out) (hc : Noiseless c) :
    strip (flatten out) = flatten c := by
  rw [strip_dress s c out h, strip_noiseless _ (flatten_noiseless c hc)]

example : ∃ (s : Settings) (c out : List Instr), dress s c = some out ∧ Noiseless c ∧ c ≠ [] ∧ out ≠ c :=
  ⟨{ default := ⟨⟨1, 1⟩, ⟨2, 1⟩, ⟨1, 100⟩⟩, durations := ⟨400, 60, 20, 20⟩ },
   [⟨"H", [.q 0], []⟩, ⟨"TICK", [], []⟩, ⟨"M", [.q 0, .q 1], []⟩], _, rfl, by
     unfold Noiseless; decide +kernel, by decide, by decide +kernel⟩

/-! ### measurement arguments -/

theorem mem_measDress (s : Settings) (c : List Instr) (j : Instr) (hj : j ∈ measDress s c) :
    (∃ q, j = measInstr s q) ∨ (j ∈ c ∧ isMeasure j.name = false) := by
  obtain ⟨i, hi, hji⟩ := List.mem_flatMap.1 hj
  unfold measDressInstr at hji
  split at hji
  · obtain ⟨q, -, e⟩ := List.mem_map.1 hji
    exact Or.inl ⟨q, e.symm⟩
  · rename_i hm
    simp at hji; subst hji
    exact Or.inr ⟨hi, by simpa using hm⟩

theorem mem_dress (s : Settings) (c out : List Instr) (h : dress s c = some out) (j : Instr) (hj : j ∈ out) :
    j ∈ measDress s c ∨ ∃ b ∈ splitBlocks (measDress s c), ∃ q ∈ allTargets (measDress s c),
      j = noiseInstr s (blockDuration s b) q := by
  rw [idle_structure s c out h] at hj
  obtain ⟨b, hb, hjb⟩ := List.mem_flatMap.1 hj
  simp only [List.mem_append, List.mem_map, List.mem_reverse] at hjb
  rcases hjb with (⟨q, hq, e⟩ | hjb) | ⟨q, hq, e⟩
  · exact Or.inr ⟨b, hb, q, hq, e.symm⟩
  · left
    rw [← splitBlocks_flatten (measDress s c)]
    exact List.mem_flatten.2 ⟨b, hb, hjb⟩
  · exact Or.inr ⟨b, hb, q, hq, e.symm⟩

/-- **measurement_arg.** Every measurement of the dressed circuit is a single-target `M` carrying the assignment
    error configured for ITS qubit (per-qubit override else default: `noiseOf_mapped`, `noiseOf_default`). -/
theorem measurement_arg (s : Settings) (c out : List Instr) (h : dress s c = some out) (j : Instr) (hj : j ∈ out)
    (hm : j.name = "M") : ∃ q, j.targets = [.q q] ∧ j.args = [.assign (s.noiseOf q).assign] := by
  rcases mem_dress s c out h j hj with hj | ⟨b, -, q, -, e⟩
  · rcases mem_measDress s c j hj with ⟨q, e⟩ | ⟨-, hn⟩
    · exact ⟨q, by rw [e]; rfl, by rw [e]; rfl⟩
    · rw [hm] at hn; exact absurd hn (by decide)
  · rw [e] at hm; exact absurd hm (by simp [noiseInstr])

/-- and none is lost: the measurements of the dressed circuit are, in order, the measurement targets of the input. -/
theorem measurements_kept (s : Settings) (c out : List Instr) (h : dress s c = some out) :
    ((flatten out).filter (fun i => isMeasure i.name)).map (·.targets) =
    ((flatten c).filter (fun i => isMeasure i.name)).map (·.targets) := by
  have key : ∀ l : List Instr, ((strip l).filter (fun i => isMeasure i.name)).map (·.targets) =
      (l.filter (fun i => isMeasure i.name)).map (·.targets) := by
    intro l
    induction l with
    | nil => rfl
    | cons i rest ih =>
      simp only [strip, List.filterMap_cons, stripInstr]
      by_cases hn : isNoise i.name = true
      · have : isMeasure i.name = false := by
          cases hm : isMeasure i.name
          · rfl
          · rw [show i.name = "M" by simpa [isMeasure] using hm, isNoise_M] at hn
            cases hn
        simp only [hn, ↓reduceIte, List.filter_cons, this, Bool.false_eq_true]
        exact ih
      · by_cases hm : isMeasure i.name = true
        · simp only [hn, Bool.false_eq_true, ↓reduceIte, hm, List.filter_cons, List.map_cons]
          congr 1
        · simp only [hn, Bool.false_eq_true, ↓reduceIte, hm, List.filter_cons]
          exact ih
  rw [← key (flatten out), ← key (flatten c), strip_dress s c out h]

/-! ## probabilities (over the reals) -/

noncomputable def Q.toReal (v : Q) : ℝ := (v.num : ℝ) / (v.den : ℝ)

noncomputable def component : Axis → ℝ × ℝ × ℝ → ℝ
  | .x, p => p.1
  | .y, p => p.2.1
  | .z, p => p.2.2

/-- the number an argument stands for: the idle channel is `get_pauli_error(t = d/2, T1, T2)`. -/
noncomputable def Arg.eval : Arg → ℝ
  | .lit v => Q.toReal v
  | .assign v => Q.toReal v
  | .pauli a d t1 t2 => component a (pauliError ((d : ℝ) / 2) (Q.toReal t1) (Q.toReal t2))

/-- **probabilities.** The three arguments of every inserted idle-noise instruction are the X, Y, Z components of
    the T1/T2 formula for half the block duration; each lies in [0, 1] and X + Y + Z ≤ 1. Guard: `T1 ≠ 0`,
    `T2 ≠ 0` — where the code divides (it raises `ZeroDivisionError` otherwise; Lean's `x/0 = 0` would make the
    statement hold there for the wrong reason). No relation between `T1` and `T2` is needed: for `T2 > 2·T1` the
    raw Z value is negative for short times (`pzRaw_neg_witness`) and the code's clamping returns 0. -/
theorem noise_probabilities (s : Settings) (d : Int) (q : Nat)
    (_h1 : Q.toReal (s.noiseOf q).t1 ≠ 0) (_h2 : Q.toReal (s.noiseOf q).t2 ≠ 0) :
    ∃ px py pz, (noiseInstr s d q).args.map Arg.eval = [px, py, pz] ∧
      (px, py, pz) = pauliError ((d : ℝ) / 2) (Q.toReal (s.noiseOf q).t1) (Q.toReal (s.noiseOf q).t2) ∧
      0 ≤ px ∧ px ≤ 1 ∧ 0 ≤ py ∧ py ≤ 1 ∧ 0 ≤ pz ∧ pz ≤ 1 ∧ px + py + pz ≤ 1 := by
  have hb := pauliError_bounds ((d : ℝ) / 2) (Q.toReal (s.noiseOf q).t1) (Q.toReal (s.noiseOf q).t2)
  have hs := pauliError_sum_le_one ((d : ℝ) / 2) (Q.toReal (s.noiseOf q).t1) (Q.toReal (s.noiseOf q).t2)
  refine ⟨_, _, _, rfl, rfl, hb.1.1, hb.1.2, hb.2.1.1, hb.2.1.2, hb.2.2.1, hb.2.2.2, hs⟩

example : ∃ s : Settings, Q.toReal (s.noiseOf 0).t1 ≠ 0 ∧ Q.toReal (s.noiseOf 0).t2 ≠ 0 :=
  ⟨{ default := ⟨⟨10000, 1⟩, ⟨20000, 1⟩, ⟨1, 100⟩⟩, durations := ⟨400, 60, 20, 20⟩ }, by
    simp [Settings.noiseOf, Q.toReal, List.lookup]⟩

/-- a block of duration 0 (empty trailing block, or only unconfigured gates) gets the zero channel. -/
theorem noise_zero_duration (s : Settings) (q : Nat) :
    (noiseInstr s 0 q).args.map Arg.eval = [0, 0, 0] := by
  simp [noiseInstr, Arg.eval, component, pauliError]

/-- in the physical regime (`d ≥ 0`, `T1, T2 > 0`) the total error stays below 3/4, and for `T2 ≤ 2·T1` the Z
    component is the unclamped formula. -/
theorem noise_physical (s : Settings) (d : Int) (q : Nat) (hd : 0 ≤ d)
    (h1 : 0 < Q.toReal (s.noiseOf q).t1) (h2 : 0 < Q.toReal (s.noiseOf q).t2) :
    ((noiseInstr s d q).args.map Arg.eval).sum ≤ 3 / 4 ∧
    (Q.toReal (s.noiseOf q).t2 ≤ 2 * Q.toReal (s.noiseOf q).t1 →
      0 ≤ pzRaw ((d : ℝ) / 2) (Q.toReal (s.noiseOf q).t1) (Q.toReal (s.noiseOf q).t2)) := by
  have hd' : (0 : ℝ) ≤ (d : ℝ) / 2 := div_nonneg (by exact_mod_cast hd) zero_le_two
  constructor
  · have := pauliError_sum_le_physical ((d : ℝ) / 2) (Q.toReal (s.noiseOf q).t1) (Q.toReal (s.noiseOf q).t2) hd' h1
    simp only [noiseInstr, List.map_cons, List.map_nil, Arg.eval, component, List.sum_cons, List.sum_nil, add_zero,
      ← add_assoc]
    exact this
  · intro h; exact pzRaw_nonneg_of_T2_le _ _ _ hd' h2 h

/-- the clamp is really needed: `T1 = 1, T2 = 4, t = 1` has a negative raw Z value; the code returns 0. -/
theorem pz_clamp_witness : pzRaw 1 1 4 < 0 ∧ (pauliError 1 1 4).2.2 = 0 := pzRaw_neg_witness

/-- assignment errors are passed through unchanged (Stim itself rejects values outside [0, 1]). -/
theorem measurement_arg_eval (s : Settings) (q : Nat) :
    (measInstr s q).args.map Arg.eval = [Q.toReal (s.noiseOf q).assign] := rfl

end Qco.C14
