import QcoVerif.Properties.C01
import QcoVerif.Lemmas.TimingSrc
/-
  C01 — tie to the SOURCE TEXT (DESIGN.md §2.3b).  Kept in a file of its own that nothing imports: a change of the translated
  source functions breaks THESE obligations only, not the build of the property files that import Properties/C01.lean.
-/
namespace Qco.C01
open Qco Qco.C10

/-! ### tie to the SOURCE TEXT (DESIGN.md §2.3b)

`Gen.PySrc.*` is the mini-Python syntax of `RelationLink.get_start_time`, `MultiRelationLink.reference_node / get_start_time`,
`IDurationComponent.end_time`, `IRelationComponent.has_relation` (structure/intrf_circuit_operation.py),
`CircuitCompositeOperation.start_time / duration` (structure/intrf_circuit_operation_composite.py), regenerated from the source text
on every run.  The theorems run the interpreter of Model/PyLang.lean on that syntax and state that it
computes the model's `linkStart`, `pickLatest`, `start + duration`, `has_relation` — the equations `evStart/evEnd/evRef` of
Model/Timing.lean are made of.  The decorators are part of the statement (`relation_link_start_decorated`): a cache that outlives
the query was finding R1. -/

section SourceTie
open Qco.Py Qco.Gen.PySrc Qco.TimingSrc

theorem relation_link_start_matches_source (rel : Rel) (ref : Option (Nat × Int × Int)) (d : Int) :
    callFn {} RelationLink_get_start_time [linkSelf rel ref, .int d] =
      .int (linkStart rel (ref.map (fun r => (r.2.1, r.2.2))) d) := by
  rcases ref with _ | ⟨n, s, e⟩
  · py_simp [RelationLink_get_start_time, linkSelf, refVal, linkStart]
  · cases rel <;> py_simp [RelationLink_get_start_time, linkSelf, refVal, relVal, linkStart, nodeObj]

theorem relation_link_start_decorated :
    RelationLink_get_start_time.decorators = ["query_scoped_cache"] ∧
    MultiRelationLink_get_start_time.decorators = ["query_scoped_cache"] ∧
    MultiRelationLink_reference_node.decorators = ["property"] ∧
    IDurationComponent_end_time.decorators = ["property"] := by decide

theorem end_time_matches_source (s d : Int) :
    callFn {} IDurationComponent_end_time [.obj "ICircuitOperation" 0 [("start_time", .int s), ("duration", .int d)]] =
      .int (s + d) := by
  py_simp [IDurationComponent_end_time]

theorem has_relation_matches_source (rel : Rel) (ref : Option (Nat × Int × Int)) :
    callFn {} IRelationComponent_has_relation [.obj "ICircuitOperation" 5 [("relation_link", linkSelf rel ref)]] =
      .bool ref.isSome := by
  cases ref with
  | none => py_simp [IRelationComponent_has_relation, linkSelf, refVal]
  | some r => obtain ⟨n, s, e⟩ := r; py_simp [IRelationComponent_has_relation, linkSelf, refVal, nodeObj]

theorem multi_reference_node_matches_source (rel : Rel) (refs : List (Nat × Int)) :
    callFn {} MultiRelationLink_reference_node [multiSelf rel refs] =
      (match refs with
       | [] => .none
       | r0 :: _ => encNode (pickLatest r0 refs)) := by
  cases refs with
  | nil => py_simp [MultiRelationLink_reference_node, multiSelf]
  | cons r0 rest =>
    have hlen : ¬ ((rest.length : Int) + 1 = 0) := by omega
    let vs1 : Vars := (Vars.set [] "self" (multiSelf rel (r0 :: rest))).set "latest_node" (encNode r0)
    -- the two statements before the loop: `latest_node` is the first node
    have hpre : execBlock {} (Vars.set [] "self" (multiSelf rel (r0 :: rest))) MultiRelationLink_reference_node.body =
        execBlock {} vs1 (MultiRelationLink_reference_node.body.drop 2) := by
      py_simp [vs1, MultiRelationLink_reference_node, multiSelf, encNode, nodeObj, hlen]
    have hiter : (eval {} vs1 (.attr (.name "self") "_reference_nodes")).elems? = some ((r0 :: rest).map encNode) := by
      py_simp [vs1, multiSelf, encNode]
    obtain ⟨vs', hloop, hlatest⟩ := latest_loop _ rfl (r0 :: rest) vs1 r0 (by simp [vs1, Vars.get_set])
    rw [callFn_of_arity _ _ _ rfl]
    show (execBlock {} (Vars.set [] "self" (multiSelf rel (r0 :: rest))) MultiRelationLink_reference_node.body).val = _
    rw [hpre]
    show (execBlock {} vs1 (.for_ "node" _ _ :: _)).val = _
    rw [execBlock_for _ _ _ _ _ _ _ hiter, hloop]
    py_simp [hlatest, pickLatest]

theorem multi_start_matches_source (rel : Rel) (ref : Option (Nat × Int × Int)) (d : Int) :
    callFn multiEnv MultiRelationLink_get_start_time [multiSelfR rel ref, .int d] =
      .int (linkStart rel (ref.map (fun r => (r.2.1, r.2.2))) d) := by
  py_simp [MultiRelationLink_get_start_time, multiSelfR]

/-- `CircuitCompositeOperation.start_time = relation_link.get_start_time(duration = self.duration)` and
    `duration = _lead_and_span()[1]`. -/
theorem composite_start_matches_source (lead span start : Int) :
    callFn { method := fun recv m args => match recv, m, args with
              | .obj "Link" _ _, "get_start_time", [.int d] => if d = span then some (.int start) else Option.none
              | _, _, _ => Option.none }
      Composite_start_time [.obj "CircuitCompositeOperation" 0 [("relation_link", .obj "Link" 1 []), ("duration", .int span)]] =
      .int start ∧
    callFn { method := fun _ m args => match m, args with
              | "_lead_and_span", [] => some (.tuple [.int lead, .int span])
              | _, _ => Option.none }
      Composite_duration [.obj "CircuitCompositeOperation" 0 []] = .int span := by
  constructor
  · py_simp [Composite_start_time]
  · py_simp [Composite_duration]

end SourceTie

end Qco.C01
