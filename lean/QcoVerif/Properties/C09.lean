import QcoVerif.Lemmas.RepTable
/-
  C09 — repetition-code circuits run the protocol: deterministic detectors, exact record.

  About `Qco.RepCode.program` (the model of `to_stim(construct_repetition_code_circuit(...))` with REPEAT
  blocks unrolled — the very function the driver prints and harness/c09.py compares with the real export) and
  `Qco.StimSem.run` (product-state semantics of the exported gate set, validated against stim's tableau
  simulator by the harness).

  FULL STATEMENT (the property as written): for EVERY code distance, all computational initial states of
  data and ancilla qubits, all numbers of QEC cycles ≥ 0, chain descriptions and every contiguous sub-chain
  of the Surface-17 repetition layouts, with and without refocusing: the run is defined, the record is
  heralding zeros ++ per cycle c and ancilla j  a_j ⊕ (c mod 2)(x_a ⊕ x_b) ++ final data x_i ⊕ [refocus ∧
  (cycles−1) odd]; every requested initial state is prepared; all (d−1)(cycles+1) detectors and the
  observable are deterministic.

  WHAT IS PROVED: exactly that, for ALL cycle counts (induction over the repeated block, period 2) and ALL
  initial states (symbolic variables + `symbolic_sound`), each statement once for every description that has
  the per-description `Facts` (`…_of_facts`, Lemmas/RepLift.lean).  `Facts` follow from well-formedness and
  the effect of ONE QEC round on the closed-form states (`facts_of_round`, Lemmas/RepProtocol.lean); the round is
    * proved for the chain descriptions of EVERY length, every container that gives states to a prefix of the
      data and of the ancilla qubits (`…_chain`, Lemmas/RepChain*.lean),
    * evaluated (one symbolic run per description, kernel-checked) for every contiguous data-terminated
      sub-chain (forward chain order) of Repetition9Code, Repetition9Round6Code, Repetition5Round4Code (table
      generated from the live code).
  The `…_partial` theorems speak of the finite table `allEntries`: these sub-chains and the chains with
  0 … 9 data qubits (chain length ≤ 17 = all that fits on the device), each with and without refocusing, for
  containers that give a state to every data qubit and to all or to none of the ancilla qubits.
  MISSING for the full statement: sub-chains listed in another qubit order (covered by the correspondence run
  only); for the sub-chains the theorems are stated for the two container shapes of the table only.
-/
namespace Qco.C09
open Qco.StimSem Qco.RepCode

/-- Instantiating the initial-state variables commutes with running: the run of the instantiated program
    from the instantiated state is the instantiated symbolic run (and is undefined exactly when that is). -/
theorem symbolic_sound (σ : Nat → Bool) (p : List Ins) (s : St) :
    run (p.map (instIns σ)) (mapSt (evalNat σ) s) = (run p s).map (mapSt (evalNat σ)) :=
  run_hom (evalNat_formHom σ) p s

/-- SHIFT_COORDS instructions can be moved, added or removed without changing the run (record, detector
    values, observable, definedness) — needed because unrolling displaces them (known finding R5). -/
theorem run_ignores_annotation_position (p p' : List Ins) (s : St)
    (h : p.filter (fun i => !isShift i) = p'.filter (fun i => !isShift i)) : run p s = run p' s := by
  rw [← run_dropShift p s, ← run_dropShift p' s, h]

example : ([Ins.M 0, .SHIFT 0 1, .DET 0 0 [-1]] : List Ins).filter (fun i => !isShift i)
    = ([Ins.SHIFT 0 1, .M 0, .DET 0 0 [-1], .SHIFT 0 1] : List Ins).filter (fun i => !isShift i) := by decide

/-! ### one QEC round -/

/-- One QEC round with dynamical decoupling on the state "data x_i, ancilla a_j" (symbolic): data stays x_i
    (⊕1 with refocusing), ancilla j is measured and left at a_j ⊕ x_a ⊕ x_b; the next round returns to the
    start (period 2).  For every table description. -/
theorem round_effect_partial {e : Desc × Nat × Nat} (he : e ∈ allEntries) (b : Bool) :
    run (roundDD e.1) ⟨stateB e.1 e.2.1 e.2.2 b, [], [], 0⟩ =
      some ⟨stateB e.1 e.2.1 e.2.2 (!b), cB e.1 e.2.1 e.2.2 (!b), [], 0⟩ :=
  round_effect_of_facts (facts_of_mem he) b

/-! ### the protocol -/

/-- `protocol_record` for the table descriptions: for all cycles ≥ 0 and all computational initial states
    the exported program exists, its run is defined (so every measurement is deterministic) and the record
    is the closed form `expectedRecord` (heralding zeros; cycle c, ancilla j: a_j ⊕ (c mod 2)(x_a ⊕ x_b);
    final data x_i ⊕ [refocus ∧ (cycles−1) odd]) instantiated with the given states. -/
theorem protocol_record_partial {e : Desc × Nat × Nat} (he : e ∈ allEntries) (cycles : Nat) (ds as : List Bool)
    (hD : ds.length = e.2.1) (hA : as.length = e.2.2) :
    ∃ p sf, program e.1 cycles ds as = some p ∧ run p (start e.1.size) = some sf ∧
      sf.mrec.reverse = (expectedRecord e.1 cycles e.2.1 e.2.2).map (evalNat (assign ds as)) :=
  protocol_record_of_facts (facts_of_mem he) cycles ds as hD hA

/-- Reading the closed form: under any assignment σ of the initial states the outcome of ancilla `q` in cycle
    `c` is  a_q ⊕ (c mod 2)·(x_a ⊕ x_b)  for its two parity neighbours a, b … -/
theorem record_entry_value (σ : Nat → Bool) (d : Desc) (nD nA c q : Nat) :
    evalNat σ (cycleForm d nD nA c q) =
      evalNat σ (aVar d nD nA q) ^^^
        (if c % 2 = 1 then evalNat σ (xVar d nD (nbrOf d q).1) ^^^ evalNat σ (xVar d nD (nbrOf d q).2) else 0) := by
  unfold cycleForm cycleFormB parityForm par
  by_cases h : c % 2 = 1
  · simp [h, evalNat_xor]
  · simp [h]

/-- … and the final value of data qubit `q` is  x_q ⊕ [refocusing ∧ (cycles − 1) odd]. -/
theorem final_entry_value (σ : Nat → Bool) (d : Desc) (nD cycles q : Nat) :
    evalNat σ (finalForm d nD cycles q) =
      evalNat σ (xVar d nD q) ^^^ (if d.refocus = true ∧ (cycles - 1) % 2 = 1 then 1 else 0) := by
  unfold finalForm finalFormB par
  by_cases h : d.refocus = true ∧ (cycles - 1) % 2 = 1
  · obtain ⟨h1, h2⟩ := h
    simp [h1, h2, evalNat_xor, evalNat_one]
  · have : (d.refocus && ((cycles - 1) % 2 == 1)) = false := by
      cases hr : d.refocus <;> simp_all
    simp [this, h]

/-- the hypotheses are satisfiable: distance-3 chain with refocusing, all states given -/
example : (chainDesc 3 true, 3, 2) ∈ allEntries := by decide
example : ([true, false, true] : List Bool).length = (chainDesc 3 true, 3, 2).2.1 := rfl
/-- … and a sub-chain of Repetition9Code without refocusing, data states only (D4 Z1 D5 Z4 D6 is among them) -/
example : ∃ e ∈ allEntries, e.1.refocus = false ∧ e.2.2 = 0 ∧ e.1.layers.length = 4 ∧ e.1.ancIdx.length = 2 := by decide

/-- All ancillas·(cycles+1) detectors and the logical observable are deterministic: the run is defined and
    each detector evaluates to the constant `expectedDetectors` gives (first cycle a_j ⊕ x_a ⊕ x_b, second
    cycle a_j, every later one — including the final ones — 0; with one cycle the final ones are a_j, with
    none x_a ⊕ x_b), the observable to the sum of the final data values. -/
theorem detectors_deterministic_partial {e : Desc × Nat × Nat} (he : e ∈ allEntries) (cycles : Nat)
    (ds as : List Bool) (hD : ds.length = e.2.1) (hA : as.length = e.2.2) :
    ∃ p sf, program e.1 cycles ds as = some p ∧ run p (start e.1.size) = some sf ∧
      p.countP isDet = e.1.ancIdx.length * (cycles + 1) ∧
      sf.det.reverse = (expectedDetectors e.1 cycles e.2.1 e.2.2).map (evalNat (assign ds as)) ∧
      (∀ v ∈ sf.det, v = 0 ∨ v = 1) :=
  detectors_deterministic_of_facts (facts_of_mem he) cycles ds as hD hA

theorem observable_deterministic_partial {e : Desc × Nat × Nat} (he : e ∈ allEntries) (cycles : Nat)
    (ds as : List Bool) (hD : ds.length = e.2.1) (hA : as.length = e.2.2) :
    ∃ p sf, program e.1 cycles ds as = some p ∧ run p (start e.1.size) = some sf ∧
      sf.obs = evalNat (assign ds as) (expectedObservable e.1 cycles e.2.1) :=
  observable_deterministic_of_facts (facts_of_mem he) cycles ds as hD hA

/-! ### the preparation layer -/

/-- Every requested initial state is prepared: right after the preparation layer (heralding measurements all
    0) data qubit i is |x_i⟩ and ancilla qubit j is |a_j⟩ (|0⟩ if the container gives no ancilla states). -/
theorem initial_state_prepared_partial {e : Desc × Nat × Nat} (he : e ∈ allEntries) (ds as : List Bool)
    (hD : ds.length = e.2.1) (hA : as.length = e.2.2) :
    ∃ prep s, prepConc e.1 ds as = some prep ∧ run (initPart e.1 prep) (start e.1.size) = some s ∧
      s.mrec = zeros e.1 ∧
      (∀ i, i < ds.length → s.q[e.1.dataIdx.getD i 0]? = some ⟨.Z, (ds.getD i false).toNat⟩) ∧
      (∀ j, j < e.1.ancIdx.length → s.q[e.1.ancIdx.getD j 0]? = some ⟨.Z, (as.getD j false).toNat⟩) :=
  initial_state_prepared_of_facts (facts_of_mem he) ds as hD hA

/-! ### stim's `flattened()` -/

/-- Applying the coordinate shifts to the detector coordinates and dropping SHIFT_COORDS (what
    `stim.Circuit.flattened()` does, `flatProgram`) does not change the run. -/
theorem flattened_same_run (p : List Ins) (a b : Int) (s : St) : run (applyShifts p a b) s = run p s := by
  induction p generalizing a b s with
  | nil => rfl
  | cons i is ih =>
    cases i <;> simp only [applyShifts, run, step, ih] <;> rfl

/-! ### ALL chain lengths (Lemmas/RepChain*.lean)

  The same statements for `from_chain(2n−1)` with EVERY n, with and without refocusing, all cycle counts, all
  computational initial states — and for every container that gives a state to the first `ds.length ≤ n` data
  qubits and the first `as.length ≤ n−1` ancilla qubits (so in particular the two container shapes of the
  table, `ds.length = n` and `as.length ∈ {0, n−1}`).  `Qco.RepChain.chain_facts_all`: `chainDesc n r` is
  well-formed, and its round is SQRT_Y on the ancillas, CZ (2j,2j+1), CZ (2j+1,2j+2), SQRT_Y_DAG, M; each layer
  acts on a register of product states by a closed-form local rule (`run_act1_layer`, `run_cz_layer`,
  `run_M_layer`). -/

/-- One QEC round with dynamical decoupling, for EVERY chain: from the closed-form state of parity `b`
    (data x_i ⊕ [refocus ∧ b], ancilla a_j ⊕ [b](x_j ⊕ x_{j+1})) to the one of parity `!b`, the record gets
    the ancilla outcomes of that state. -/
theorem round_effect_chain (n : Nat) (r : Bool) (nD nA : Nat) (hD : nD ≤ n) (hA : nA ≤ n - 1) (b : Bool) :
    run (roundDD (chainDesc n r)) ⟨stateB (chainDesc n r) nD nA b, [], [], 0⟩ =
      some ⟨stateB (chainDesc n r) nD nA (!b), cB (chainDesc n r) nD nA (!b), [], 0⟩ :=
  round_effect_of_facts (Qco.RepChain.chain_facts_all n r nD nA hD hA) b

/-- `protocol_record` for EVERY chain length: for all n, all cycles ≥ 0 and all computational initial states
    the exported program exists, its run is defined (every measurement deterministic) and the record is the
    closed form `expectedRecord` instantiated with the given states. -/
theorem protocol_record_chain (n : Nat) (r : Bool) (cycles : Nat) (ds as : List Bool)
    (hD : ds.length ≤ n) (hA : as.length ≤ n - 1) :
    ∃ p sf, program (chainDesc n r) cycles ds as = some p ∧ run p (start (chainDesc n r).size) = some sf ∧
      sf.mrec.reverse = (expectedRecord (chainDesc n r) cycles ds.length as.length).map (evalNat (assign ds as)) :=
  protocol_record_of_facts (Qco.RepChain.chain_facts_all n r ds.length as.length hD hA) cycles ds as rfl rfl

/-- the hypotheses are satisfiable beyond the table: distance 12 (23 qubits), all data and ancilla states given -/
example : (List.replicate 12 true).length ≤ 12 ∧ ([true, false, true, true, false, false, true, false, true, true, false] : List Bool).length ≤ 12 - 1 := by decide
/-- … and the theorem instantiated there (7 cycles, with refocusing) -/
example : ∃ p sf, program (chainDesc 12 true) 7 (List.replicate 12 true) [true, false, true] = some p ∧
    run p (start (chainDesc 12 true).size) = some sf ∧
    sf.mrec.reverse = (expectedRecord (chainDesc 12 true) 7 12 3).map (evalNat (assign (List.replicate 12 true) [true, false, true])) :=
  protocol_record_chain 12 true 7 (List.replicate 12 true) [true, false, true] (by decide) (by decide)

/-- `protocol_record_partial` instantiated at `chainDesc n` without the table-membership hypothesis:
    the container gives a state to every data qubit and to all or to none of the ancilla qubits. -/
theorem protocol_record_chain_full (n : Nat) (r : Bool) (nA : Nat) (hnA : nA = 0 ∨ nA = n - 1) (cycles : Nat)
    (ds as : List Bool) (hD : ds.length = n) (hA : as.length = nA) :
    ∃ p sf, program (chainDesc n r) cycles ds as = some p ∧ run p (start (chainDesc n r).size) = some sf ∧
      sf.mrec.reverse = (expectedRecord (chainDesc n r) cycles n nA).map (evalNat (assign ds as)) := by
  subst hD; subst hA
  exact protocol_record_chain ds.length r cycles ds as (Nat.le_refl _) (by omega)

example : (3 : Nat) = 0 ∨ 3 = 4 - 1 := by decide

/-- All (n−1)·(cycles+1) detectors are deterministic, for EVERY chain length: the run is defined and each
    detector evaluates to the constant `expectedDetectors` gives. -/
theorem detectors_deterministic_chain (n : Nat) (r : Bool) (cycles : Nat) (ds as : List Bool)
    (hD : ds.length ≤ n) (hA : as.length ≤ n - 1) :
    ∃ p sf, program (chainDesc n r) cycles ds as = some p ∧ run p (start (chainDesc n r).size) = some sf ∧
      p.countP isDet = (chainDesc n r).ancIdx.length * (cycles + 1) ∧
      sf.det.reverse = (expectedDetectors (chainDesc n r) cycles ds.length as.length).map (evalNat (assign ds as)) ∧
      (∀ v ∈ sf.det, v = 0 ∨ v = 1) :=
  detectors_deterministic_of_facts (Qco.RepChain.chain_facts_all n r ds.length as.length hD hA) cycles ds as rfl rfl

/-- The logical observable is deterministic, for EVERY chain length: the sum of the final data values. -/
theorem observable_deterministic_chain (n : Nat) (r : Bool) (cycles : Nat) (ds as : List Bool)
    (hD : ds.length ≤ n) (hA : as.length ≤ n - 1) :
    ∃ p sf, program (chainDesc n r) cycles ds as = some p ∧ run p (start (chainDesc n r).size) = some sf ∧
      sf.obs = evalNat (assign ds as) (expectedObservable (chainDesc n r) cycles ds.length) :=
  observable_deterministic_of_facts (Qco.RepChain.chain_facts_all n r ds.length as.length hD hA) cycles ds as rfl rfl

/-- Every requested initial state is prepared, for EVERY chain length: right after the preparation layer
    (heralding measurements all 0) data qubit i is |x_i⟩ and ancilla qubit j is |a_j⟩ (|0⟩ if no state was
    given for it). -/
theorem initial_state_prepared_chain (n : Nat) (r : Bool) (ds as : List Bool)
    (hD : ds.length ≤ n) (hA : as.length ≤ n - 1) :
    ∃ prep s, prepConc (chainDesc n r) ds as = some prep ∧
      run (initPart (chainDesc n r) prep) (start (chainDesc n r).size) = some s ∧
      s.mrec = zeros (chainDesc n r) ∧
      (∀ i, i < ds.length → s.q[(chainDesc n r).dataIdx.getD i 0]? = some ⟨.Z, (ds.getD i false).toNat⟩) ∧
      (∀ j, j < (chainDesc n r).ancIdx.length →
        s.q[(chainDesc n r).ancIdx.getD j 0]? = some ⟨.Z, (as.getD j false).toNat⟩) :=
  initial_state_prepared_of_facts (Qco.RepChain.chain_facts_all n r ds.length as.length hD hA) ds as rfl rfl

/-- the hypotheses of the `_chain` theorems are satisfiable beyond the table: distance 40, partial containers -/
example : (25 : Nat) ≤ 40 ∧ (39 : Nat) ≤ 40 - 1 := by decide

/-- … so the chain of distance n has exactly (n−1)·(cycles+1) detectors, all deterministic. -/
theorem detector_count_chain (n : Nat) (r : Bool) (cycles : Nat) (ds as : List Bool)
    (hD : ds.length ≤ n) (hA : as.length ≤ n - 1) :
    ∃ p, program (chainDesc n r) cycles ds as = some p ∧ p.countP isDet = (n - 1) * (cycles + 1) := by
  obtain ⟨p, _, hp, _, hc, _⟩ := detectors_deterministic_chain n r cycles ds as hD hA
  rw [Qco.RepChain.chain_ancIdx_length] at hc
  exact ⟨p, hp, hc⟩

example : ([] : List Bool).length ≤ 30 ∧ ([] : List Bool).length ≤ 30 - 1 := by decide

end Qco.C09
