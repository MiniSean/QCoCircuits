import QcoVerif.Properties.C06
import QcoVerif.Lemmas.BuilderSrc
import QcoVerif.Lemmas.FacadeSrc
/-
  C06 — tie to the SOURCE TEXT (DESIGN.md §2.3b).  Kept in a file of its own that nothing imports: a change of the translated
  source functions breaks THESE obligations only, not the build of the property files that import Properties/C06.lean.
-/
namespace Qco.C06
open Qco Qco.C10

/-! ### tie to the SOURCE TEXT of the builder (DESIGN.md §2.3b; proofs in Lemmas/BuilderSrc.lean)

`extend`, `repeat`, `apply_modifiers_to_self`.  The functions act on objects: the fragment records such effects (`Py.callEffects`) instead of executing them. -/

section BuilderSourceTie
open Qco.Py Qco.Gen.PySrc Qco.BuilderSrc

/-- **`extend`**: the appended nodes get — iff they have no relation — the group link to the leaves of `self` (none for an empty graph), then each is `add`ed, in listing order — `World.extend`. -/
theorem extend_matches_source (lv : List Nat) (nodes : List (Nat × Bool)) :
    callEffects builderEnv Composite_extend [extSelf lv, extOther nodes] = extEffects lv nodes :=
  BuilderSrc.extend_matches_source lv nodes

/-- **`repeat(times)`**: one pristine copy, then `times − 1` times `extend(copy of the pristine copy)`. -/
theorem repeat_matches_source (times : Nat) :
    callEffects builderEnv Composite_repeat
        [.obj "CircuitCompositeOperation" 1 [("copy()", .obj "CircuitCompositeOperation" 9 [("copy()", origCopy)])], .int times] =
      List.replicate (times - 1)
        (Val.tuple [.str "call", .obj "CircuitCompositeOperation" 1 [("copy()", .obj "CircuitCompositeOperation" 9 [("copy()", origCopy)])],
                    .str "extend", origCopy]) :=
  BuilderSrc.repeat_matches_source times

/-- **`apply_modifiers_to_self`**: `repeat(count)`, the count becomes `FixedRepetitionStrategy(1)`, every node applies its own modifiers — `World.applyModifiers`. -/
theorem apply_modifiers_matches_source (count : Int) (nodes : List Nat) :
    callEffects builderEnv Composite_apply_modifiers [amSelf count nodes] =
      [Val.tuple [.str "call", amSelf count nodes, .str "repeat", .int count],
       Val.tuple [.str "setattr", amSelf count nodes, .str "repetition_strategy",
                  .tuple [.str "FixedRepetitionStrategy", .tuple [.str "repetitions", .int 1]]]] ++
      nodes.map (fun n => Val.tuple [.str "call", plainOp n, .str "apply_modifiers_to_self"]) :=
  BuilderSrc.apply_modifiers_matches_source count nodes

end BuilderSourceTie

/-! ### the facade `DeclarativeCircuit` as written (Lemmas/FacadeSrc.lean; DESIGN.md §2.3b) -/

section Facade
open Qco.Py Qco.Gen.PySrc Qco.BuilderSrc Qco.FacadeSrc

/-- **`apply_modifiers`**: the structure is modified IN PLACE (`apply_modifiers_to_self` is called on it and answers with the same
    object), and a fresh wrapper receives that structure, the SAME list of added operations and the SAME acquisition registry. -/
theorem facade_apply_modifiers_matches_source :
    let st := stObj 2 [("apply_modifiers_to_self()", stObj 2 [])]
    let fresh := Val.tuple [.str "DeclarativeCircuit", .tuple [.str "nr_qubits", .int 0]]
    callEffects builderEnv Decl_apply_modifiers [declObj 1 st addedObj regObj] =
      [Val.tuple [.str "setattr", fresh, .str "_structure", stObj 2 []],
       Val.tuple [.str "setattr", fresh, .str "_added_operations", addedObj],
       Val.tuple [.str "setattr", fresh, .str "_acquisition_registry", regObj]] :=
  FacadeSrc.apply_modifiers_matches_source

end Facade

end Qco.C06
