import QcoVerif.Properties.C05
import QcoVerif.Lemmas.BuilderSrc
import QcoVerif.Lemmas.FacadeSrc
/-
  C05 — tie to the SOURCE TEXT (DESIGN.md §2.3b).  Kept in a file of its own that nothing imports: a change of the translated
  source functions breaks THESE obligations only, not the build of the property files that import Properties/C05.lean.
-/
namespace Qco.C05
open Qco

/-! ### tie to the SOURCE TEXT of the builder (DESIGN.md §2.3b; proofs in Lemmas/BuilderSrc.lean)

`CircuitCompositeOperation.copy` and `.add`.  The functions act on objects: the fragment records such effects (`Py.callEffects`) instead of executing them. -/

section BuilderSourceTie
open Qco.Py Qco.Gen.PySrc Qco.BuilderSrc

/-- **`CircuitCompositeOperation.copy`**: a new composite (link copied through the lookup, SAME repetition strategy); per node in listing order: copy through the same lookup, record `lookup[operation] = copy`, `add` the copy — `World.copyObj`. -/
theorem composite_copy_effects_match_source (nodes : List Nat) :
    callEffects builderEnv Composite_copy [cpSelf nodes, cpLookup] =
      nodes.flatMap (fun n => [Val.tuple [.str "setitem", cpLookup, cpOp n, cpCopy n],
                               Val.tuple [.str "call", cpResult, .str "add", cpCopy n]]) ∧
    callFn builderEnv Composite_copy [cpSelf nodes, cpLookup] = cpResult :=
  BuilderSrc.composite_copy_matches_source nodes

/-- `CircuitCompositeOperation.add`: the graph attribute is replaced by what `add_to_graph(graph, operation)` returns. -/
theorem add_matches_source (g op : Val) (hg : g = .obj "Graph" 2 []) (hop : op = .obj "Operation" 7 []) :
    callEffects builderEnv Composite_add [.obj "CircuitCompositeOperation" 1 [("_circuit_graph", g)], op] =
      [Val.tuple [.str "setattr", .obj "CircuitCompositeOperation" 1 [("_circuit_graph", g)], .str "_circuit_graph",
        .tuple [.str "CircuitGraphBranch.add_to_graph", .tuple [.str "graph", g], .tuple [.str "operation", op]]]] := by
  subst hg hop
  py_simp [Composite_add]

end BuilderSourceTie

/-! ### the facade `DeclarativeCircuit` as written (Lemmas/FacadeSrc.lean; DESIGN.md §2.3b) -/

section Facade
open Qco.Py Qco.Gen.PySrc Qco.BuilderSrc Qco.FacadeSrc

/-- **`add_sub_circuit`**: the sub-circuit is COPIED with the transfer table `{sub-circuit ↦ own structure}` (one entry, exactly this
    one), the COPY is added to the structure and recorded, and the copy is what is returned. -/
theorem facade_add_sub_circuit_matches_source (cp : Val) (hcp : cp = .obj "CircuitCompositeOperation" 8 []) :
    let sub := Val.obj "CircuitCompositeOperation" 5 [("copy()", cp)]
    callEffects builderEnv Decl_add_sub_circuit [declObj 1 (stObj 2 []) addedObj regObj, sub] =
      [Val.tuple [.str "call", stObj 2 [], .str "add", cp],
       Val.tuple [.str "call", addedObj, .str "append", cp]] ∧
    callFn builderEnv Decl_add_sub_circuit [declObj 1 (stObj 2 []) addedObj regObj, sub] = cp :=
  FacadeSrc.add_sub_circuit_matches_source cp hcp

/-- the transfer table `add_sub_circuit` hands to `copy`: one pair, sub-circuit ↦ own structure. -/
theorem facade_add_sub_circuit_lookup (sub st : Val) :
    eval builderEnv (Vars.set (Vars.set [] "self" (declObj 1 st addedObj regObj)) "operation" sub)
      (.call "dict_of" [.name "operation", .attr (.name "self") "_structure"]) = .list [.tuple [sub, st]] :=
  FacadeSrc.add_sub_circuit_lookup sub st

end Facade

end Qco.C05
