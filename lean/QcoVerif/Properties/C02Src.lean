import QcoVerif.Properties.C02
import QcoVerif.Lemmas.BuilderSrc
import QcoVerif.Generated.Limits
import QcoVerif.Lemmas.FacadeSrc
/-
  C02 — tie to the SOURCE TEXT (DESIGN.md §2.3b).  Kept in a file of its own that nothing imports: a change of the translated
  source functions breaks THESE obligations only, not the build of the property files that import Properties/C02.lean.
-/
namespace Qco.C02
open Qco

/-! ### tie to the SOURCE TEXT of the builder (DESIGN.md §2.3b; proofs in Lemmas/BuilderSrc.lean)

`CircuitGraphBranch.add_to_graph` and `get_corresponding_node`.  The functions act on objects: the fragment records such effects (`Py.callEffects`) instead of executing them. -/

section BuilderSourceTie
open Qco.Py Qco.Gen.PySrc Qco.BuilderSrc

/-- **`add_to_graph`: the effects of the source text, for every combination of `has_relation`, the leaf found and the node of the referenced operation**, and the returned graph. -/
theorem add_to_graph_matches_source (hasRel : Bool) (leaf relNode : Option Nat) :
    callEffects builderEnv Graph_add_to_graph [graphObj leaf relNode, newOpObj hasRel] = addEffects hasRel leaf relNode ∧
    callFn builderEnv Graph_add_to_graph [graphObj leaf relNode, newOpObj hasRel] = graphObj leaf relNode :=
  BuilderSrc.add_to_graph_matches_source hasRel leaf relNode

/-- those effects are a function of the decision `addDecision`. -/
theorem addEffects_by_decision (hasRel : Bool) (leaf relNode : Option Nat) :
    addEffects hasRel leaf relNode =
      (match addDecision hasRel leaf relNode with
       | .root => [evAppend (graphObj leaf relNode) rootNode (newNode hasRel)]
       | .relinkUnder l => [evRelink (newOpObj hasRel) (linkTo l), evAppend (graphObj leaf relNode) (nodeOf l) (newNode hasRel)]
       | .under r => [evAppend (graphObj leaf relNode) (nodeOf r) (newNode hasRel)]
       | .warnRoot => [evWarn, evRelink (newOpObj hasRel) noRelation, evAppend (graphObj leaf relNode) rootNode (newNode hasRel)]
       | .warnUnder l => [evWarn, evRelink (newOpObj hasRel) (linkTo l), evAppend (graphObj leaf relNode) (nodeOf l) (newNode hasRel)]) :=
  BuilderSrc.addEffects_by_decision hasRel leaf relNode

/-- **the model's `World.addToGraph` is driven by the same decision table** (when the reference of the link is defined). -/
theorem addToGraph_by_decision (w : World) (g : List Entry) (o : Nat)
    (hdef : w.hasRel o = true → ∃ r, w.refOf (w.op o).link = some (some r)) :
    w.addToGraph g o =
      applyDecision w g o (addDecision (w.hasRel o) (w.leafAtAny g (w.chansOf o)) (relNodeOf w g o)) :=
  BuilderSrc.addToGraph_by_decision w g o hdef

/-- `get_corresponding_node`: the first node whose operation IS the given one. -/
theorem get_corresponding_node_matches_source (nodes : List Nat) (o : Nat) :
    callFn builderEnv Graph_get_corresponding_node
        [.obj "Graph" 2 [("get_node_iterator()", .list (nodes.map plainNode))], plainOp o] =
      (match nodes.find? (fun n => n == o) with
       | some n => plainNode n
       | none => .none) :=
  BuilderSrc.get_corresponding_node_matches_source nodes o

end BuilderSourceTie

/-- **pinned limit**: the code's layer-by-layer walk of a graph stops silently after `MAX_GRAPH_DEPTH` layers (a chain of more
    operations than that on one channel is listed truncated); the model's listing is unbounded, so the listing theorems are about
    graphs of fewer layers.  The bound they are stated for is the one the pinned code has: lowering it breaks this obligation
    (and the harness then builds a chain deeper than the new bound). -/
theorem graph_depth_bound_pinned : 5000 ≤ Qco.Gen.maxGraphDepth := by decide

/-! ### the facade `DeclarativeCircuit` as written (Lemmas/FacadeSrc.lean; DESIGN.md §2.3b) -/

section Facade
open Qco.Py Qco.Gen.PySrc Qco.BuilderSrc Qco.FacadeSrc

/-- a `DeclarativeCircuit` with identity `i`: its structure, its list of added operations, its registry. -/
def declObj (i : Nat) (st added reg : Val) : Val :=
  .obj "DeclarativeCircuit" i [("_structure", st), ("_added_operations", added), ("_acquisition_registry", reg),
                               ("nr_qubits", .int 0), ("circuit_structure", st), ("acquisition_registry", reg)]

def stObj (i : Nat) (extra : List (String × Val)) : Val := .obj "CircuitCompositeOperation" i extra
def addedObj : Val := .obj "list" 90 []
def regObj : Val := .obj "AcquisitionRegistry" 91 []

/-- **`add_operation`**: the operation ITSELF is added to the structure and recorded; it is what is returned. -/
theorem facade_add_operation_matches_source (op : Val) (hop : op = .obj "Operation" 7 []) :
    callEffects builderEnv Decl_add_operation [declObj 1 (stObj 2 []) addedObj regObj, op] =
      [Val.tuple [.str "call", stObj 2 [], .str "add", op],
       Val.tuple [.str "call", addedObj, .str "append", op]] ∧
    callFn builderEnv Decl_add_operation [declObj 1 (stObj 2 []) addedObj regObj, op] = op := by
  subst hop
  constructor <;> py_simp [Decl_add_operation, declObj, stObj, addedObj]

/-- **`add_sub_circuit`**: the sub-circuit is COPIED with the transfer table `{sub-circuit ↦ own structure}` (one entry, exactly this
    one), the COPY is added to the structure and recorded, and the copy is what is returned. -/
theorem facade_add_sub_circuit_matches_source (cp : Val) (hcp : cp = .obj "CircuitCompositeOperation" 8 []) :
    let sub := Val.obj "CircuitCompositeOperation" 5 [("copy()", cp)]
    callEffects builderEnv Decl_add_sub_circuit [declObj 1 (stObj 2 []) addedObj regObj, sub] =
      [Val.tuple [.str "call", stObj 2 [], .str "add", cp],
       Val.tuple [.str "call", addedObj, .str "append", cp]] ∧
    callFn builderEnv Decl_add_sub_circuit [declObj 1 (stObj 2 []) addedObj regObj, sub] = cp :=
  FacadeSrc.add_sub_circuit_matches_source cp hcp

/-- the transfer table `add_sub_circuit` hands to `copy`: one pair, sub-circuit ↦ own structure. -/
theorem facade_add_sub_circuit_lookup (sub st : Val) :
    eval builderEnv (Vars.set (Vars.set [] "self" (declObj 1 st addedObj regObj)) "operation" sub)
      (.call "dict_of" [.name "operation", .attr (.name "self") "_structure"]) = .list [.tuple [sub, st]] :=
  FacadeSrc.add_sub_circuit_lookup sub st

/-- **`get_last_entry`**: the last element of the list of added operations; raises on an empty circuit. -/
theorem facade_get_last_entry_matches_source (l : List Nat) :
    callFn builderEnv Decl_get_last_entry [declObj 1 (stObj 2 []) (.list (l.map plainOp)) regObj] =
      (match l.getLast? with
       | some n => plainOp n
       | none => .err "raised: NoReferenceOperationException") := by
  cases hl : l.getLast? with
  | none =>
    obtain rfl : l = [] := by simpa using hl
    py_simp [Decl_get_last_entry, declObj]
  | some n =>
    have hne : l ≠ [] := by intro h; subst h; simp at hl
    have hpos : 0 < l.length := List.length_pos_iff.mpr hne
    have hnn : ¬ ((l.length : Int) + -1 < 0) := by omega
    have hj : ((l.length : Int) + -1).toNat = l.length - 1 := by omega
    have h2 : l[l.length - 1]? = some n := by rw [← List.getLast?_eq_getElem?]; exact hl
    py_simp [Decl_get_last_entry, declObj, hne, hnn, hj, h2]

end Facade

end Qco.C02
