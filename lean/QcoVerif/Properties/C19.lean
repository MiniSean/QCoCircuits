import QcoVerif.Model.Ident
import QcoVerif.Lemmas.UniqueInOrder
/-
  C19 — channel and identifier matching behave as overlap / identity relations.

  About `Qco.ChId.matches` (Model/Basic.lean, used by the heap model's implicit sequencing),
  `Qco.uniqueInOrder` (Model/Builder.lean, used for `channel_identifiers` of a composite) and the
  identifier model of Model/Ident.lean.  `harness/c19.py` ties each of these definitions to the code
  exhaustively (driver module `ident`).
-/
namespace Qco.C19
open Qco

/-! ## `ChannelIdentifier.__eq__` -/

/-- two identifiers match exactly when they name the same qubit and either the same channel or at least
    one of them names all channels. -/
theorem match_iff (a b : ChId) :
    a.matches b = true ↔ a.q = b.q ∧ (a.c = b.c ∨ a.c = Chan.all ∨ b.c = Chan.all) := by
  simp [ChId.matches, or_assoc]

theorem match_refl (a : ChId) : a.matches a = true := by simp [ChId.matches]

theorem match_symm (a b : ChId) : a.matches b = b.matches a := by
  rw [Bool.eq_iff_iff, match_iff, match_iff]
  constructor <;> (rintro ⟨h, k⟩; refine ⟨h.symm, ?_⟩; rcases k with k | k | k <;> simp [k])

theorem match_same_qubit (a b : ChId) (h : a.matches b = true) : a.q = b.q :=
  ((match_iff a b).1 h).1

theorem match_all (q : Int) (c : Chan) : (ChId.mk q Chan.all).matches ⟨q, c⟩ = true := by
  simp [ChId.matches]

/-- matching is NOT transitive: MW ~ ALL ~ FL but MW and FL do not match (so it is an overlap relation,
    not an equivalence, and a `set`/`dict` keyed by it would be ill-defined without the exact hash). -/
theorem match_not_transitive_witness :
    (ChId.mk 0 Chan.mw).matches ⟨0, Chan.all⟩ = true ∧ (ChId.mk 0 Chan.all).matches ⟨0, Chan.fl⟩ = true ∧
    (ChId.mk 0 Chan.mw).matches ⟨0, Chan.fl⟩ = false := by decide

/-- … and when none of the three names `ALL`, matching is transitive. -/
theorem match_trans_of_ne_all (a b c : ChId) (hb : b.c ≠ Chan.all)
    (h₁ : a.matches b = true) (h₂ : b.matches c = true) (ha : a.c ≠ Chan.all) (hc : c.c ≠ Chan.all) :
    a.matches c = true := by
  rw [match_iff] at *
  obtain ⟨q₁, k₁⟩ := h₁; obtain ⟨q₂, k₂⟩ := h₂
  refine ⟨q₁.trans q₂, Or.inl ?_⟩
  rcases k₁ with k₁ | k₁ | k₁ <;> rcases k₂ with k₂ | k₂ | k₂ <;> simp_all

example : (ChId.mk 1 Chan.mw).c ≠ Chan.all := by decide

/-- inside a Python `set` (hash of `(id, channel)` first, then `==`) two channel identifiers collide exactly
    when they are structurally equal: `ALL` does not absorb the other channels there. -/
theorem chid_setHit_eq_beq (s x : ChId) : s.setHit x = (s == x) := by
  obtain ⟨sq, sc⟩ := s; obtain ⟨xq, xc⟩ := x
  rw [Bool.eq_iff_iff]
  simp only [ChId.setHit, setHit, ChId.hashKey, Bool.and_eq_true, beq_iff_eq, Prod.mk.injEq, match_iff,
    ChId.mk.injEq]
  constructor
  · rintro ⟨h, -⟩; exact h
  · rintro ⟨h, k⟩; exact ⟨⟨h, k⟩, h, Or.inl k⟩

/-! ## qubit and edge identifiers -/

theorem qubit_eq_iff_name (a b : QubitId) : a.eq b = true ↔ a.name = b.name := by
  simp [QubitId.eq]

theorem qubit_eq_iff (a b : QubitId) : a.eq b = true ↔ a = b := by
  obtain ⟨a⟩ := a; obtain ⟨b⟩ := b; simp [QubitId.eq]

/-- the argument's orientation never matters. -/
theorem edge_eq_swap (e f : EdgeId) : e.eq f.swap = e.eq f := by
  simp [EdgeId.eq, EdgeId.contains, EdgeId.swap, Bool.or_comm]

/-- nor does the receiver's. -/
theorem edge_eq_swap_left (e f : EdgeId) : e.swap.eq f = e.eq f := by
  simp [EdgeId.eq, EdgeId.swap, Bool.and_comm]

theorem edge_eq_self_swap (e : EdgeId) : e.eq e.swap = true ∧ e.swap.eq e = true ∧ e.eq e = true := by
  have h : e.eq e = true := by simp [EdgeId.eq, EdgeId.contains, QubitId.eq]
  exact ⟨(edge_eq_swap e e).trans h, (edge_eq_swap_left e e).trans h, h⟩

/-- the hashed tuple does not depend on the order of the two qubits, for any hash of the names. -/
theorem edge_hash_swap (h : String → Int) (e : EdgeId) : e.swap.hashKey h = e.hashKey h := by
  simp [EdgeId.hashKey, EdgeId.swap, Int.min_comm, Int.max_comm]

/-- `EdgeIDObj.__eq__` is "same unordered pair" — provided the RECEIVER is not a degenerate edge `q–q`:
    the code tests `{self.q0, self.q1} ⊆ {other.q0, other.q1}`. -/
theorem edge_eq_iff_unordered (e f : EdgeId) (hne : e.q0 ≠ e.q1) :
    e.eq f = true ↔ e.sameUnordered f := by
  obtain ⟨⟨a⟩, ⟨b⟩⟩ := e; obtain ⟨⟨c⟩, ⟨d⟩⟩ := f
  simp [EdgeId.eq, EdgeId.contains, QubitId.eq, EdgeId.sameUnordered] at hne ⊢
  constructor
  · rintro ⟨h0 | h0, h1 | h1⟩ <;> subst h0 <;> subst h1 <;> simp_all
  · rintro (⟨h0, h1⟩ | ⟨h0, h1⟩) <;> subst h0 <;> subst h1 <;> simp

example : (EdgeId.mk ⟨"D1"⟩ ⟨"X1"⟩).q0 ≠ (EdgeId.mk ⟨"D1"⟩ ⟨"X1"⟩).q1 := by decide

/-- equal edges (in the code's sense) hash equal. -/
theorem edge_eq_hash (h : String → Int) (e f : EdgeId) (hne : e.q0 ≠ e.q1) (he : e.eq f = true) :
    e.hashKey h = f.hashKey h := by
  obtain ⟨f0, f1⟩ := f
  rcases (edge_eq_iff_unordered e ⟨f0, f1⟩ hne).mp he with ⟨rfl, rfl⟩ | ⟨rfl, rfl⟩
  · rfl
  · exact (edge_hash_swap h e).symm

/-- for non-degenerate receivers equality is symmetric. -/
theorem edge_eq_symm (e f : EdgeId) (he : e.q0 ≠ e.q1) (hf : f.q0 ≠ f.q1) : e.eq f = f.eq e := by
  have h₁ := edge_eq_iff_unordered e f he
  have h₂ := edge_eq_iff_unordered f e hf
  have : e.sameUnordered f ↔ f.sameUnordered e := by
    unfold EdgeId.sameUnordered
    constructor <;> (rintro (⟨a, b⟩ | ⟨a, b⟩) <;> simp [a, b])
  rw [Bool.eq_iff_iff, h₁, h₂, this]

/-- the guard is needed: the degenerate edge `D1–D1` "equals" `D1–X1`, not conversely, and the two are not the
    same unordered pair (the library never builds a degenerate edge; recorded as an observation). -/
theorem edge_eq_degenerate_witness :
    (EdgeId.mk ⟨"D1"⟩ ⟨"D1"⟩).eq ⟨⟨"D1"⟩, ⟨"X1"⟩⟩ = true ∧
    (EdgeId.mk ⟨"D1"⟩ ⟨"X1"⟩).eq ⟨⟨"D1"⟩, ⟨"D1"⟩⟩ = false ∧
    ¬ (EdgeId.mk ⟨"D1"⟩ ⟨"D1"⟩).sameUnordered ⟨⟨"D1"⟩, ⟨"X1"⟩⟩ := by
  refine ⟨by decide, by decide, ?_⟩
  unfold EdgeId.sameUnordered; decide

/-- inside a `set` (hash first) the degenerate case disappears when the name hash is injective: a stored edge
    and a probe collide exactly when they are the same unordered pair. -/
theorem edge_setHit_iff (h : String → Int) (s x : EdgeId)
    (hinj : ∀ a ∈ [s.q0.name, s.q1.name, x.q0.name, x.q1.name],
      ∀ b ∈ [s.q0.name, s.q1.name, x.q0.name, x.q1.name], h a = h b → a = b) :
    s.setHit h x = true ↔ s.sameUnordered x := by
  by_cases hne : s.q0 = s.q1
  · obtain ⟨⟨a⟩, ⟨b⟩⟩ := s; obtain ⟨⟨c⟩, ⟨d⟩⟩ := x
    simp at hne; subst hne
    simp only [EdgeId.setHit, setHit, EdgeId.hashKey, EdgeId.eq, EdgeId.contains, QubitId.eq,
      EdgeId.sameUnordered, Bool.and_eq_true, beq_iff_eq, Bool.or_eq_true, Prod.mk.injEq, Int.min_self,
      Int.max_self, QubitId.mk.injEq]
    constructor
    · rintro ⟨⟨hmin, hmax⟩, hc, -⟩
      have hcd : c = d := by
        apply hinj c (by simp) d (by simp)
        rcases Int.le_total (h c) (h d) with hle | hle
        · rw [Int.min_eq_left hle] at hmin; rw [Int.max_eq_right hle] at hmax; omega
        · rw [Int.min_eq_right hle] at hmin; rw [Int.max_eq_left hle] at hmax; omega
      subst hcd
      rcases hc with hc | hc <;> simp [hc]
    · rintro (⟨h0, h1⟩ | ⟨h0, h1⟩) <;> subst h0 <;> subst h1 <;> simp
  · rw [← edge_eq_iff_unordered s x hne]
    simp only [EdgeId.setHit, setHit, Bool.and_eq_true, beq_iff_eq]
    exact ⟨fun hh => hh.2, fun hh => ⟨edge_eq_hash h s x hne hh, hh⟩⟩

example : ∃ (h : String → Int) (s x : EdgeId), s.q0 = s.q1 ∧ ¬ s.q0 = x.q1 ∧
    (∀ a ∈ [s.q0.name, s.q1.name, x.q0.name, x.q1.name], ∀ b ∈ [s.q0.name, s.q1.name, x.q0.name, x.q1.name],
      h a = h b → a = b) :=
  ⟨fun n => n.length, ⟨⟨"D1"⟩, ⟨"D1"⟩⟩, ⟨⟨"D1"⟩, ⟨"X10"⟩⟩, by decide⟩

/-- identifiers of different kinds, and identifiers and non-identifiers, never compare equal. -/
theorem cross_kind_ne (a b : Obj) (h : a.pyEq b = true) :
    (∃ x y, a = .chan x ∧ b = .chan y) ∨ (∃ x y, a = .qubit x ∧ b = .qubit y) ∨
    (∃ x y, a = .feedline x ∧ b = .feedline y) ∨ (∃ x y, a = .edge x ∧ b = .edge y) ∨
    (∃ x y, a = .other x ∧ b = .other y) := by
  -- in the twenty mixed cases `pyEq` is `false` by definition; the five same-kind cases are their own disjunct
  cases a <;> cases b <;> first | cases h | skip
  · exact Or.inl ⟨_, _, rfl, rfl⟩
  · exact Or.inr (Or.inl ⟨_, _, rfl, rfl⟩)
  · exact Or.inr (Or.inr (Or.inl ⟨_, _, rfl, rfl⟩))
  · exact Or.inr (Or.inr (Or.inr (Or.inl ⟨_, _, rfl, rfl⟩)))
  · exact Or.inr (Or.inr (Or.inr (Or.inr ⟨_, _, rfl, rfl⟩)))

example : (Obj.qubit ⟨"D1"⟩).pyEq (.qubit ⟨"D1"⟩) = true := by decide

/-! ## `unique_in_order` -/

theorem uniqueInOrder_sublist {α : Type _} [BEq α] (l : List α) : (uniqueInOrder l).Sublist l := by
  induction l with
  | nil => exact List.Sublist.slnil
  | cons x xs ih => exact List.Sublist.cons_cons x ((List.filter_sublist).trans ih)

theorem uniqueInOrder_mem {α : Type _} [BEq α] [LawfulBEq α] (l : List α) (y : α) :
    y ∈ uniqueInOrder l ↔ y ∈ l := Qco.uniqueInOrder_mem l y

section unique
variable {α : Type} [BEq α] [LawfulBEq α]

theorem uniqueInOrder_nodup (l : List α) : (uniqueInOrder l).Nodup := by
  induction l with
  | nil => simp [uniqueInOrder]
  | cons x xs ih =>
    simp only [uniqueInOrder, List.nodup_cons, List.mem_filter, beq_self_eq_true, Bool.not_true,
      Bool.false_eq_true, and_false, not_false_eq_true, true_and]
    exact ih.sublist List.filter_sublist

theorem uniqueInOrder_of_nodup (l : List α) (h : l.Nodup) : uniqueInOrder l = l := by
  induction l with
  | nil => rfl
  | cons x xs ih =>
    rw [List.nodup_cons] at h
    simp only [uniqueInOrder, ih h.2]
    congr 1
    apply List.filter_eq_self.2
    intro y hy
    simp only [Bool.not_eq_eq_eq_not, Bool.not_true, beq_eq_false_iff_ne, ne_eq]
    rintro rfl; exact h.1 hy

theorem uniqueInOrder_idem (l : List α) : uniqueInOrder (uniqueInOrder l) = uniqueInOrder l :=
  uniqueInOrder_of_nodup _ (uniqueInOrder_nodup l)

theorem firstIdx_filter_lt (p : α → Bool) (x y : α) (hx : p x = true)
    (m : List α) (h : firstIdx x m < firstIdx y m) :
    firstIdx x (m.filter p) < firstIdx y (m.filter p) := by
  induction m with
  | nil => simp [firstIdx] at h
  | cons w ws ih =>
    by_cases hwx : w = x
    · subst hwx
      have hyw : ¬ w = y := by rintro rfl; simp [firstIdx] at h
      simp [List.filter, hx, firstIdx, hyw]
    · by_cases hwy : w = y
      · subst hwy; simp [firstIdx] at h
      · have h' : firstIdx x ws < firstIdx y ws := by simpa [firstIdx, hwx, hwy] using h
        cases hp : p w <;> simp [List.filter, hp, firstIdx, hwx, hwy, ih h']

/-- the relative order of first occurrences is kept: if `x` first occurs before `y` in the input, it
    (first) occurs before `y` in the output. With `_mem` and `_nodup`: the output is the input's sequence of
    first occurrences. -/
theorem uniqueInOrder_first_occurrence (l : List α) (x y : α)
    (h : firstIdx x l < firstIdx y l) :
    firstIdx x (uniqueInOrder l) < firstIdx y (uniqueInOrder l) := by
  induction l with
  | nil => simp [firstIdx] at h
  | cons z zs ih =>
    by_cases hzx : z = x
    · subst hzx
      have hzy : ¬ z = y := by rintro rfl; simp [firstIdx] at h
      simp [uniqueInOrder, firstIdx, hzy]
    · by_cases hzy : z = y
      · subst hzy; simp [firstIdx] at h
      · have h' : firstIdx x zs < firstIdx y zs := by simpa [firstIdx, hzx, hzy] using h
        have hx : (fun w => !(w == z)) x = true := by simp; exact fun e => hzx e.symm
        have := firstIdx_filter_lt (fun w => !(w == z)) x y hx _ (ih h')
        simpa [uniqueInOrder, firstIdx, hzx, hzy] using this

example : firstIdx 3 [1, 3, 1, 2, 3] < firstIdx 2 [1, 3, 1, 2, 3] := by decide

omit [LawfulBEq α] in
theorem uniqueInOrder_cons (x : α) (xs : List α) :
    uniqueInOrder (x :: xs) = x :: (uniqueInOrder xs).filter (fun y => !(y == x)) := rfl

/-! ### the loop as written (`seen` set) is the recursive definition the heap model uses -/

theorem uniqueLoopAux_eq (acc l : List α) :
    uniqueLoopAux (fun s x => s == x) acc l = acc ++ (uniqueInOrder l).filter (fun y => !acc.contains y) := by
  induction l generalizing acc with
  | nil => simp [uniqueLoopAux, uniqueInOrder]
  | cons x xs ih =>
    simp only [uniqueLoopAux, uniqueInOrder, List.filter_cons, List.filter_filter, List.any_beq', ih]
    -- `x` is skipped when already collected; then it also filters nothing new out of the rest
    cases hx : acc.contains x
    · simp only [Bool.false_eq_true, if_false, Bool.not_false, if_true, List.append_assoc, List.singleton_append]
      congr 2
      apply List.filter_congr
      intro y _
      by_cases hy : y = x <;> simp [hy]
    · simp only [if_true, Bool.not_true, Bool.false_eq_true, if_false]
      congr 1
      apply List.filter_congr
      intro y _
      have hx' : x ∈ acc := by simpa using hx
      by_cases hy : y = x <;> simp [hy, hx']

/-- `unique_in_order` (loop over a growing `seen` set) = `Qco.uniqueInOrder`, when the set's test is a lawful
    equality (ints, strings, qubit identifiers; channel identifiers by `chid_setHit_eq_beq`). -/
theorem uniqueLoop_eq_uniqueInOrder (l : List α) : uniqueLoop (fun s x => s == x) l = uniqueInOrder l := by
  simp [uniqueLoop, uniqueLoopAux_eq]

end unique

/-- for channel identifiers the set's test (hash of `(id, channel)`, then the matching `==`) is exact equality,
    so `unique_in_order` on them is `Qco.dedupChans`: `ALL` does not absorb `MW`. -/
theorem uniqueLoop_chid (l : List ChId) : uniqueLoop ChId.setHit l = dedupChans l := by
  have : ChId.setHit = fun s x => s == x := by funext s x; exact chid_setHit_eq_beq s x
  rw [this, uniqueLoop_eq_uniqueInOrder]; rfl

theorem uniqueLoop_chid_witness :
    uniqueLoop ChId.setHit [⟨0, Chan.all⟩, ⟨0, Chan.mw⟩, ⟨0, Chan.all⟩] = [⟨0, Chan.all⟩, ⟨0, Chan.mw⟩] := by decide

/-- de-duplication through a key: if the set's test is "equal keys" (edges: the unordered pair), the keys of
    the result are the de-duplicated keys of the input — so every statement above transfers. -/
theorem uniqueLoop_map_key {α κ : Type} [BEq κ] (k : α → κ) (hit : α → α → Bool)
    (hk : ∀ s x, hit s x = (k s == k x)) (l : List α) :
    (uniqueLoop hit l).map k = uniqueLoop (fun s x => s == x) (l.map k) := by
  suffices h : ∀ acc, (uniqueLoopAux hit acc l).map k = uniqueLoopAux (fun s x => s == x) (acc.map k) (l.map k) by
    simpa [uniqueLoop] using h []
  induction l with
  | nil => intro acc; simp [uniqueLoopAux]
  | cons x xs ih =>
    intro acc
    have : acc.any (fun s => hit s x) = (acc.map k).any (fun s => s == k x) := by
      simp [List.any_map, hk, Function.comp_def]
    simp only [uniqueLoopAux, List.map_cons, this]
    split
    · exact ih acc
    · simpa using ih (acc ++ [x])

example : ∀ s x : ChId, ChId.setHit s x = (id s == id x) := chid_setHit_eq_beq

/-! ## `unique_in_order` over concatenations and filters (compositional laws: the channel list of a composite is the
    de-duplicated concatenation of its content's channel lists) -/

section unique2
variable {α : Type} [BEq α] [LawfulBEq α]

omit [LawfulBEq α] in
theorem uniqueInOrder_length_le (l : List α) : (uniqueInOrder l).length ≤ l.length :=
  (uniqueInOrder_sublist l).length_le

theorem uniqueInOrder_filter (p : α → Bool) (l : List α) :
    (uniqueInOrder l).filter p = uniqueInOrder (l.filter p) := by
  induction l with
  | nil => rfl
  | cons x xs ih =>
    by_cases hx : p x = true
    · simp only [uniqueInOrder, List.filter_cons, hx, if_true]
      congr 1
      rw [List.filter_filter, ← ih, List.filter_filter]
      congr 1; funext y; exact Bool.and_comm _ _
    · simp only [uniqueInOrder, List.filter_cons, hx, Bool.false_eq_true, if_false]
      rw [List.filter_filter, ← ih]
      apply List.filter_congr
      intro y _
      by_cases hy : y = x
      · subst hy; simp [hx]
      · simp [hy]

theorem uniqueInOrder_append (l m : List α) :
    uniqueInOrder (l ++ m) = uniqueInOrder l ++ (uniqueInOrder m).filter (fun y => !l.contains y) := by
  induction l with
  | nil =>
    simp only [List.nil_append, uniqueInOrder, List.contains_nil, Bool.not_false]
    exact (List.filter_eq_self.2 (fun _ _ => rfl)).symm
  | cons x xs ih =>
    simp only [List.cons_append, uniqueInOrder, ih, List.filter_append, List.filter_filter]
    congr 2
    apply List.filter_congr
    intro y _
    simp

/-- listing the same content twice adds nothing. -/
theorem uniqueInOrder_append_self (l : List α) : uniqueInOrder (l ++ l) = uniqueInOrder l := by
  have : (uniqueInOrder l).filter (fun y => !l.contains y) = [] := by
    apply List.filter_eq_nil_iff.2
    intro y hy
    have := (uniqueInOrder_mem l y).1 hy
    simp [this]
  rw [uniqueInOrder_append, this, List.append_nil]

example : uniqueInOrder ([1, 3, 1] ++ [2, 3, 4]) = [1, 3, 2, 4] := by decide

end unique2

end Qco.C19
