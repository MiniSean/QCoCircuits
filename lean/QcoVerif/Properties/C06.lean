import QcoVerif.Properties.C01
import QcoVerif.Properties.C05
import QcoVerif.Lemmas.Unroll
import QcoVerif.Lemmas.TreeDepth
/-
  C06 — applying repetition modifiers unrolls n back-to-back copies, once.

  Proved here (about definitions the driver executes):
   * a group link — `extend` hangs the heads of an appended copy under one — refers to a member of the group that ends
     latest (`copy_follows_latest_leaf`, a statement about `pickLatest`);
   * n copies of a block of duration T chained back to back occupy exactly n·T (`chain_span`);
   * counts are read when modifiers are applied (fixed or registry-provided, default 1); operations that are not
     sub-circuits are left alone.
   * **heap level, flat blocks** (`unroll_flat_partial`, `unroll_flat_twice_partial`, `copy_of_flat_block`): for a sub-circuit
     whose nodes are leaf operations, `applyModifiers` leaves count 1 and exactly `max 1 n` times as many leaf nodes, a
     second application adds nothing, and the copy it starts from is a fresh flat block that changes nothing existing
     (Lemmas/Unroll.lean).
   * **heap level, NESTED blocks** (Lemmas/TreeHeap, TreeCopy, UnrollNested, TreeBuild, TreeDepth): on a TREE-shaped heap
     below `c` (`TreeBelow`: no sharing, ids in range — what the API builds, `fresh_circuit_is_tree`,
     `add_leaf_keeps_tree`, `add_sub_circuit_keeps_tree`) `applyModifiers` keeps the count-expanded multiset of leaf
     signatures (`World.expand`: every leaf × product of the enclosing `max 1 count`), leaves every count `fixed 1`, keeps
     the heap a tree, writes no object outside the tree and not the count registry (`unroll_counts`,
     `unroll_counts_driver` — no fuel hypothesis: a tree has at most as many levels as the heap has objects,
     `tree_depth_le_objects`); the unrolled operation listing is that multiset (`unroll_listing`); a second application
     writes NO existing object at all (`unroll_twice`); the copy it is built on returns a fresh separated tree with the
     same expansion (`copy_of_tree`) and `extend` keeps separation (`extend_keeps_tree`).
  NOT proved: the ORDER of the unrolled listing (only the multiset); the library "n-fold concatenation" clause is false
  of model and code (finding R5).
-/
namespace Qco.C06

open Qco Qco.C10

/-- `pickLatest`, by which a group link (such as the one `extend` gives the heads of an appended copy) picks its
    reference, returns one of the candidates, and none of them ends later. -/
theorem copy_follows_latest_leaf (best : Nat × Int) (xs : List (Nat × Int)) :
    (pickLatest best xs = best ∨ pickLatest best xs ∈ xs) ∧
    best.2 ≤ (pickLatest best xs).2 ∧ ∀ x ∈ xs, x.2 ≤ (pickLatest best xs).2 :=
  Qco.C01.group_reference_is_latest best xs

def chain (s T : Int) (n : Nat) : List (Int × Int) :=
  (List.range n).map (fun (k : Nat) => (s + (k : Int) * T, s + ((k : Int) + 1) * T))

/-- **n·T**: a block consisting of n ≥ 1 copies of duration T ≥ 0 chained one after another has lead 0 and
    duration n·T. -/
theorem chain_span (s T : Int) (hT : 0 ≤ T) (n : Nat) :
    leadSpan [s] (chain s T (n + 1)) = (0, ((n : Int) + 1) * T) := by
  -- the first copy starts earliest, the last one ends latest
  have hmin : minOf ((chain s T (n + 1)).map (·.1)) = s := by
    apply minOf_eq
    · simp only [chain, List.map_map, List.mem_map, List.mem_range, Function.comp]
      exact ⟨0, by omega, by simp⟩
    · intro x hx
      simp only [chain, List.map_map, List.mem_map, List.mem_range, Function.comp] at hx
      obtain ⟨k, _, rfl⟩ := hx
      have : 0 ≤ (k : Int) * T := Int.mul_nonneg (Int.natCast_nonneg k) hT
      omega
  have hmax : maxOf ((chain s T (n + 1)).map (·.2)) = s + ((n : Int) + 1) * T := by
    apply maxOf_eq
    · simp only [chain, List.map_map, List.mem_map, List.mem_range, Function.comp]
      exact ⟨n, by omega, rfl⟩
    · intro x hx
      simp only [chain, List.map_map, List.mem_map, List.mem_range, Function.comp] at hx
      obtain ⟨k, hk, rfl⟩ := hx
      have h1 : (k : Int) + 1 ≤ (n : Int) + 1 := by omega
      have := Int.mul_le_mul_of_nonneg_right h1 hT
      omega
  unfold leadSpan
  rw [hmin, hmax]
  simp only [minOf, List.foldl_nil, Int.sub_self, Prod.mk.injEq, true_and]
  omega

/-- counts are read when modifiers are applied: a fixed count is itself, a registry-provided one is the value
    registered under its key at that time, 1 if none. -/
theorem count_fixed (w : World) (n : Nat) : w.repCount (.fixed n) = n := rfl

theorem count_registry_default (w : World) (k : Nat) (h : ∀ p ∈ w.rreg, p.1 ≠ k) : w.repCount (.reg k) = 1 := by
  unfold World.repCount
  have : w.rreg.find? (fun x => x.1 == k) = none := by
    rw [List.find?_eq_none]; intro x hx; simpa using h x hx
  simp [this]

/-- operations that are not sub-circuits are untouched by `apply_modifiers_to_self`. -/
theorem apply_leaf (w : World) (f o : Nat) (h : (w.op o).isComp = false) : w.applyModifiers f o = w :=
  applyModifiers_leaf w f o h

/-! ### the heap-level statement for a flat block

`applyModifiers` (= `apply_modifiers_to_self`) on a block all of whose nodes are leaf operations (which may repeat and need
not be copy-stable: `FlatIn` asks less than `TreeBelow`, and the statements count nodes).  The general statement (arbitrary
nesting: occurrences multiply with the product of the enclosing counts) needs the same argument for every level plus a
separation argument between sibling sub-circuits: second half of this file. -/

/-- **unrolling a flat block** (`_partial`: flat blocks only).  For a sub-circuit `c` whose nodes are leaf operations,
    with repetition count `n` (fixed or registry-provided, read now): after `apply_modifiers_to_self`
    * its count is `1`,
    * its graph holds exactly `max 1 n` times as many nodes as before, all of them leaf operations
      (`n - 1 + 1` in truncated subtraction: a count of `0` is unrolled as one copy — as the code does),
    * the count registry is untouched. -/
theorem unroll_flat_partial (w : World) (f c : Nat) (hc : c < w.ops.size) (hcomp : (w.op c).isComp = true)
    (hflat : FlatIn w c) :
    ((w.applyModifiers (f + 1) c).op c).rep = .fixed 1 ∧
    ((w.applyModifiers (f + 1) c).op c).graph.length =
      (w.op c).graph.length * (w.repCount (w.op c).rep - 1 + 1) ∧
    FlatIn (w.applyModifiers (f + 1) c) c ∧
    (w.applyModifiers (f + 1) c).rreg = w.rreg ∧
    c < (w.applyModifiers (f + 1) c).ops.size ∧ ((w.applyModifiers (f + 1) c).op c).isComp = true := by
  obtain ⟨t1, t2, t3, t4, t5, t6⟩ := unrollTop_flat w c hc hcomp hflat
  rw [applyModifiers_comp w f c hcomp]
  generalize unrollTop w c = w3 at t1 t2 t3 t4 t5 t6
  -- the nodes are leaf operations: the recursion does nothing
  have hfold : (listing (w3.op c).graph).foldl (fun (w1 : World) n => w1.applyModifiers f n) w3 = w3 :=
    foldl_inv_prefix (fun _ wi => wi = w3)
      (fun _ n wi hn hi => by rw [hi]; exact applyModifiers_leaf w3 f n (t3 n hn).2) rfl
  rw [hfold]
  exact ⟨t1, t2, t3, t4, t5, t6⟩

/-- the pristine copy `applyModifiers` starts from: a fresh composite (identity = old heap size) with the same count and
    one fresh leaf node per node of the block; every object that existed keeps kind, qubits, count and graph. -/
theorem copy_of_flat_block (w : World) (o : Nat) (ho : (w.op o).isComp = true) (hflat : FlatIn w o) :
    (w.copy o).2 = w.ops.size ∧ ((w.copy o).1.op (w.copy o).2).rep = (w.op o).rep ∧
    ((w.copy o).1.op (w.copy o).2).graph.length = (w.op o).graph.length ∧
    FlatIn (w.copy o).1 (w.copy o).2 ∧
    ∀ j, j < w.ops.size → ((w.copy o).1.op j).noLink = (w.op j).noLink := by
  obtain ⟨hid, hf⟩ := copy_flat w o ho hflat
  rw [hid]
  exact ⟨rfl, hf.rep, hf.len, hf.flat, fun j hj => op_eq_noLink (hf.nw.old j hj)⟩

/-- **applying the modifiers a second time adds nothing** (flat block): the count stays `1`, the number of nodes is
    unchanged, the nodes are still leaf operations. -/
theorem unroll_flat_twice_partial (w : World) (f g c : Nat) (hc : c < w.ops.size) (hcomp : (w.op c).isComp = true)
    (hflat : FlatIn w c) :
    (((w.applyModifiers (f + 1) c).applyModifiers (g + 1) c).op c).rep = .fixed 1 ∧
    (((w.applyModifiers (f + 1) c).applyModifiers (g + 1) c).op c).graph.length =
      ((w.applyModifiers (f + 1) c).op c).graph.length := by
  obtain ⟨h1, _, h3, _, h5, h6⟩ := unroll_flat_partial w f c hc hcomp hflat
  obtain ⟨k1, k2, _, _, _, _⟩ := unroll_flat_partial (w.applyModifiers (f + 1) c) g c h5 h6 h3
  refine ⟨k1, ?_⟩
  rw [k2, h1]
  show _ * (1 - 1 + 1) = _
  simp

/-- non-vacuity: a block with one `Rx180` and a fixed count of 3 is a flat block of an existing composite. -/
def exFlat : World :=
  { ops := #[{ cls := .comp, rep := .fixed 3, graph := [{ node := 1, parent := none, key := [0] }] },
             { cls := .rx180, qs := [0], dur := .glob .mw }] }

example : 0 < exFlat.ops.size ∧ (exFlat.op 0).isComp = true ∧ FlatIn exFlat 0 := by
  refine ⟨by decide, by decide, ?_⟩
  intro n hn
  have : listing (exFlat.op 0).graph = [1] := by
    simp [exFlat, World.op, listing, sortedEntries]
  rw [this] at hn
  simp only [List.mem_singleton] at hn
  subst hn
  exact ⟨by decide, by decide⟩

/-- non-vacuity of `chain_span`: three copies of a block of duration 2 (16 units) starting at 1. -/
example : leadSpan [8] (chain 8 16 3) = (0, 48) := by decide

/-! ### the heap-level statement for NESTED blocks

Hypothesis `TreeBelow w f c`: the heap below `c` is a tree of depth ≤ `f` (every node of every composite is an object
of the heap, the nodes of a composite are pairwise distinct, their sub-trees pairwise disjoint and do not contain the
composite; every leaf's per-class `copy()` keeps its signature — true of every well-formed operation,
`leaf_copy_keeps_signature`).  `World.expand w f c` is the multiset (as a list, insertion order) of the leaf signatures
below `c`, each composite's content repeated `max 1 count` times — i.e. every leaf × the product of the enclosing
counts.  `AllOnes w f c`: every composite at or below `c` has the count `fixed 1`. -/

/-- every operation the constructors can produce (`C05.Op.WellFormed`) satisfies the leaf hypothesis of `TreeBelow`. -/
theorem leaf_copy_keeps_signature (o : Op) (h : C05.Op.WellFormed o) : o.CopyStable := by
  obtain ⟨h1, h2, h3, h4, h5, h6, _⟩ := C05.copy_class_faithful o h
  unfold Op.CopyStable Op.sig
  rw [h1, h2, h3, h4, h5, h6]

/-- **the general copy lemma.**  On a tree `o` of depth ≤ `f`, `copyObj` (any transfer lookup, any fuel ≥ `f`) returns
    a FRESH tree: its root is the first new object, every object below it is new, it is a tree in the new heap, it has
    the kind and repetition strategy of `o` and — up to order — the same count-expanded leaf signatures; it has the same
    repetition STRATEGY at every level: the expansions agree for EVERY assignment `cnt` of multiplicities to strategies
    (`World.expandWith`; `World.expand` is the instance `cnt r = max 1 (count of r)`, `expand_is_expandWith`); no object
    that existed is written (not even a link) and the count registry is kept. -/
theorem copy_of_tree (w : World) (f o : Nat) (lk : Lookup) (g : Nat) (ht : TreeBelow w f o) (hg : f ≤ g) :
    (w.copyObj g o lk).2.1 = w.ops.size ∧ w.ops.size < (w.copyObj g o lk).1.ops.size ∧
    (∀ j, j < w.ops.size → (w.copyObj g o lk).1.op j = w.op j) ∧ (w.copyObj g o lk).1.rreg = w.rreg ∧
    TreeBelow (w.copyObj g o lk).1 f (w.copyObj g o lk).2.1 ∧
    (∀ j ∈ (w.copyObj g o lk).1.below f (w.copyObj g o lk).2.1, w.ops.size ≤ j) ∧
    ((w.copyObj g o lk).1.op (w.copyObj g o lk).2.1).isComp = (w.op o).isComp ∧
    ((w.op o).isComp = true → ((w.copyObj g o lk).1.op (w.copyObj g o lk).2.1).rep = (w.op o).rep) ∧
    ((w.copyObj g o lk).1.expand f (w.copyObj g o lk).2.1).Perm (w.expand f o) ∧
    (∀ cnt : Rep → Nat,
      ((w.copyObj g o lk).1.expandWith cnt f (w.copyObj g o lk).2.1).Perm (w.expandWith cnt f o)) := by
  have h := copyObj_tree f w o lk g ht hg
  exact ⟨h.id, h.size, h.old, h.rreg, h.tree, h.fresh, h.kind, h.rep, h.expand, h.shape⟩

theorem expand_is_expandWith (w : World) (f o : Nat) :
    w.expand f o = w.expandWith (fun r => max 1 (w.repCount r)) f o := expand_eq_expandWith w f o

/-- **`extend` keeps separation.**  Extending a tree `c` with the nodes of a separate tree `other` (as `repeat` does with a
    fresh copy) leaves `c` a tree whose content is the two contents; only `c` (its graph) and the appended nodes (their
    links) are written. -/
theorem extend_keeps_tree (w : World) (f c other : Nat) (hc : TreeBelow w (f + 1) c) (hcc : (w.op c).isComp = true)
    (ho : TreeBelow w (f + 1) other) (hoc : (w.op other).isComp = true)
    (hd : ∀ j, j ∈ w.below (f + 1) c → j ∉ w.below (f + 1) other) :
    TreeBelow (w.extend c other) (f + 1) c ∧
    ((w.extend c other).content f c).Perm (w.content f c ++ w.content f other) ∧
    (w.extend c other).ops.size = w.ops.size ∧ (w.extend c other).rreg = w.rreg ∧
    (∀ j, j ≠ c → j ∉ w.kids other → (w.extend c other).op j = w.op j) ∧
    (∀ j, j ≠ c → ((w.extend c other).op j).noLink = (w.op j).noLink) := by
  have hp : (listing (w.op other).graph).Perm (w.kids other) := listing_perm _
  have he := extend_appends w c other hc.lt
  obtain ⟨t, ct, _⟩ := he.tree hc hcc ((ho.forest hoc).perm hp.symm)
    (fun n hn j hj hjn => hd j hj (below_kid w f other n j hoc (hp.mem_iff.mp hn) hjn))
  refine ⟨t, ?_, he.size, he.rreg, ?_, he.other⟩
  · rw [ct]
    exact List.Perm.append_left _ (List.Perm.flatMap_right _ hp)
  · intro j hjc hj
    exact extend_op_other w c other j hjc (fun hmem => hj (hp.mem_iff.mp hmem))

/-- **nested counts multiply; all counts are reset to 1; outside operations are untouched.**  For a tree `c` of depth
    ≤ `f` and recursion fuel `g ≥ f` (the fuel of the copies, `depthFuel`, always suffices: a tree has at most as many
    levels as the heap has objects, `tree_depth_le_objects`), after `apply_modifiers_to_self`:
    (a) the count-expanded multiset of leaf signatures below `c` is the one before — every leaf of the original occurs
        product-of-the-enclosing-counts times, now with all counts 1;
    (b) every composite at or below `c` has the count `fixed 1`;
    (c) the heap below `c` is still a tree, made of old objects below `c` and fresh objects;
    (d) every object that existed and is not below `c` is exactly as it was (link included), the count registry is
        untouched, no object disappears. -/
theorem unroll_counts (w : World) (f c g : Nat) (h : TreeBelow w f c) (hg : f ≤ g) :
    ((w.applyModifiers g c).expand f c).Perm (w.expand f c) ∧
    AllOnes (w.applyModifiers g c) f c ∧
    TreeBelow (w.applyModifiers g c) f c ∧
    (∀ j ∈ (w.applyModifiers g c).below f c, j ∈ w.below f c ∨ w.ops.size ≤ j) ∧
    (∀ j, j < w.ops.size → j ∉ w.below f c → (w.applyModifiers g c).op j = w.op j) ∧
    (w.applyModifiers g c).rreg = w.rreg ∧ w.ops.size ≤ (w.applyModifiers g c).ops.size := by
  have s := applyModifiers_tree_any w f c g h (Or.inl hg)
  exact ⟨s.expand, s.ones, s.tree, s.sub, s.frame, s.rreg, s.size⟩

/-- the same for the call the driver makes (`World.applyModifiers w w.depthFuel c`): no fuel hypothesis at all, any depth
    bound `f`. -/
theorem unroll_counts_driver (w : World) (f c : Nat) (h : TreeBelow w f c) :
    ((w.applyModifiers w.depthFuel c).expand f c).Perm (w.expand f c) ∧
    AllOnes (w.applyModifiers w.depthFuel c) f c ∧ TreeBelow (w.applyModifiers w.depthFuel c) f c ∧
    (∀ j ∈ (w.applyModifiers w.depthFuel c).below f c, j ∈ w.below f c ∨ w.ops.size ≤ j) ∧
    (∀ j, j < w.ops.size → j ∉ w.below f c → (w.applyModifiers w.depthFuel c).op j = w.op j) ∧
    (w.applyModifiers w.depthFuel c).rreg = w.rreg ∧ w.ops.size ≤ (w.applyModifiers w.depthFuel c).ops.size := by
  have s := applyModifiers_tree_driver w f c h
  exact ⟨s.expand, s.ones, s.tree, s.sub, s.frame, s.rreg, s.size⟩

/-- a tree has at most as many levels as the heap has objects: every tree has a depth bound `≤ ops.size`
    (`< depthFuel`). -/
theorem tree_depth_le_objects (w : World) (f o : Nat) (h : TreeBelow w f o) :
    ∃ f0, f0 ≤ f ∧ f0 ≤ w.ops.size ∧ TreeBelow w f0 o := tree_depth_le_size w f o h

/-- **the unrolled operation listing**: after `apply_modifiers_to_self` the operation listing of `c`
    (`decomposed_operations`, what the exporters and the schedule walk) has, as a multiset of signatures, each leaf of the
    original repeated product-of-the-enclosing-counts times. -/
theorem unroll_listing (w : World) (f c g : Nat) (h : TreeBelow w f c) (hc : (w.op c).isComp = true) (hg : f ≤ g) :
    ((((w.applyModifiers g c).operations c).2).map (fun n => ((w.applyModifiers g c).op n).sig)).Perm
      (w.expand f c) :=
  (applyModifiers_tree_any w f c g h (Or.inl hg)).listing hc

/-- **each kind of operation occurs (content × product of the enclosing counts) times**: the number of occurrences of a
    signature `s` in the unrolled operation listing is its number of occurrences in the expansion of the original, and
    that number obeys the multiplication law `counts_multiply` level by level. -/
theorem unroll_occurrences (w : World) (f c g : Nat) (h : TreeBelow w f c) (hc : (w.op c).isComp = true) (hg : f ≤ g)
    (s : Sig) :
    ((((w.applyModifiers g c).operations c).2).map (fun n => ((w.applyModifiers g c).op n).sig)).count s =
      (w.expand f c).count s :=
  (unroll_listing w f c g h hc hg).count_eq s

/-- occurrences in the expansion of a composite = `max 1 count` × the occurrences in the expansions of its nodes. -/
theorem counts_multiply (w : World) (f c : Nat) (s : Sig) (hc : (w.op c).isComp = true) :
    (w.expand (f + 1) c).count s =
      max 1 (w.repCount (w.op c).rep) * ((w.kids c).map (fun n => (w.expand f n).count s)).sum := by
  rw [expand_comp w f c hc, count_repeatList]
  unfold World.content
  rw [List.count_flatMap]
  rfl

/-- the same for the driver's call. -/
theorem unroll_listing_driver (w : World) (f c : Nat) (h : TreeBelow w f c) (hc : (w.op c).isComp = true) :
    ((((w.applyModifiers w.depthFuel c).operations c).2).map
      (fun n => ((w.applyModifiers w.depthFuel c).op n).sig)).Perm (w.expand f c) :=
  (applyModifiers_tree_driver w f c h).listing hc

/-- **idempotence.**  Applying the modifiers a second time writes NO object that exists (it only allocates the
    abandoned pristine copies): every object — in particular every graph and every count below `c` — is exactly as the
    first application left it, so `c` is the same tree with the same objects, the same expansion, all counts `fixed 1`. -/
theorem unroll_twice (w : World) (f c g g' : Nat) (h : TreeBelow w f c) (hg : f ≤ g) (hg' : f ≤ g') :
    (∀ j, j < (w.applyModifiers g c).ops.size →
      ((w.applyModifiers g c).applyModifiers g' c).op j = (w.applyModifiers g c).op j) ∧
    ((w.applyModifiers g c).applyModifiers g' c).rreg = (w.applyModifiers g c).rreg ∧
    ((w.applyModifiers g c).applyModifiers g' c).below f c = (w.applyModifiers g c).below f c ∧
    ((w.applyModifiers g c).applyModifiers g' c).expand f c = (w.applyModifiers g c).expand f c ∧
    TreeBelow ((w.applyModifiers g c).applyModifiers g' c) f c ∧
    AllOnes ((w.applyModifiers g c).applyModifiers g' c) f c := by
  have s := applyModifiers_tree_any w f c g h (Or.inl hg)
  have n := applyModifiers_ones_any (w.applyModifiers g c) f c g' s.tree s.ones (Or.inl hg')
  obtain ⟨k1, k2, k3, k4⟩ := n.keeps s.tree
  exact ⟨n.old, n.rreg, k2, k3, k1, k4 s.ones⟩

/-- idempotence for the two calls the driver makes (each with the `depthFuel` of its own heap). -/
theorem unroll_twice_driver (w : World) (f c : Nat) (h : TreeBelow w f c) :
    (∀ j, j < (w.applyModifiers w.depthFuel c).ops.size →
      ((w.applyModifiers w.depthFuel c).applyModifiers (w.applyModifiers w.depthFuel c).depthFuel c).op j =
        (w.applyModifiers w.depthFuel c).op j) ∧
    ((w.applyModifiers w.depthFuel c).applyModifiers (w.applyModifiers w.depthFuel c).depthFuel c).expand f c =
      (w.applyModifiers w.depthFuel c).expand f c ∧
    AllOnes ((w.applyModifiers w.depthFuel c).applyModifiers (w.applyModifiers w.depthFuel c).depthFuel c) f c := by
  have s := applyModifiers_tree_driver w f c h
  have n := applyModifiers_ones_any (w.applyModifiers w.depthFuel c) f c
    (w.applyModifiers w.depthFuel c).depthFuel s.tree s.ones (Or.inr (by unfold World.depthFuel; omega))
  obtain ⟨_, _, k3, k4⟩ := n.keeps s.tree
  exact ⟨n.old, k3, k4 s.ones⟩

/-! #### API-built heaps are trees -/

/-- a fresh circuit (`DeclarativeCircuit()`) is a tree, and creating it writes nothing that exists. -/
theorem fresh_circuit_is_tree (w : World) (rep : Rep) (f : Nat) :
    (w.newCircuit rep).2 = w.ops.size ∧ TreeBelow (w.newCircuit rep).1 (f + 1) (w.newCircuit rep).2 ∧
    (∀ j, j < w.ops.size → (w.newCircuit rep).1.op j = w.op j) := by
  obtain ⟨h1, h2, _, h4, _⟩ := newCircuit_tree w rep f
  exact ⟨h1, h4, h2.old⟩

/-- `add` of a freshly created leaf operation keeps the tree and appends the operation's signature to the content. -/
theorem add_leaf_keeps_tree (w : World) (f c : Nat) (op : Op) (ht : TreeBelow w (f + 2) c)
    (hcomp : (w.op c).isComp = true) (hl : op.isComp = false) (hs : op.CopyStable) :
    TreeBelow ((w.newOp op).1.add c (w.newOp op).2) (f + 2) c ∧
    ((w.newOp op).1.add c (w.newOp op).2).content (f + 1) c = w.content (f + 1) c ++ [op.sig] ∧
    (∀ j, j < w.ops.size → j ≠ c → ((w.newOp op).1.add c (w.newOp op).2).op j = w.op j) := by
  obtain ⟨h1, _, _, h4, h5, _⟩ := addLeaf_tree w f c op ht hcomp hl hs
  exact ⟨h1, h4, h5⟩

/-- `add_sub_circuit` (which copies the sub-circuit) keeps the tree and appends the sub-circuit's expansion. -/
theorem add_sub_circuit_keeps_tree (w : World) (f c sub : Nat) (ht : TreeBelow w (f + 1) c)
    (hcomp : (w.op c).isComp = true) (hs : TreeBelow w f sub) (hf : f ≤ w.depthFuel) :
    TreeBelow (w.addSub c sub).1 (f + 1) c ∧
    ((w.addSub c sub).1.content f c).Perm (w.content f c ++ w.expand f sub) ∧
    (∀ j, j < w.ops.size → j ≠ c → (w.addSub c sub).1.op j = w.op j) := by
  obtain ⟨h1, _, _, h4, h5, _⟩ := addSub_tree w f c sub ht hcomp hs hf
  exact ⟨h1, h4, h5⟩

theorem tree_depth_mono (w : World) (f o d : Nat) (h : TreeBelow w f o) :
    TreeBelow w (f + d) o ∧ w.below (f + d) o = w.below f o ∧ w.expand (f + d) o = w.expand f o := h.mono d

/-! #### non-vacuity: a heap built with the model's builder, nesting depth 2 below `top`, counts 2 and 3

`exG` (Lemmas/TreeBuild.lean) is  top = Circuit(); mid = Circuit(repetitions 2); inner = Circuit(repetitions 3);
inner.add(Rx180(0)); mid.add(DispersiveMeasure(0)); mid.add_sub_circuit(inner); top.add_sub_circuit(mid), built with
`newCircuit / newOp / add / addSub`; `TreeBelow` is derived from the constructor lemmas above. -/

/-- hypotheses of `unroll_counts(_driver)`, `unroll_listing(_driver)`, `unroll_twice(_driver)`, `copy_of_tree`,
    `tree_depth_mono`, `tree_depth_le_objects` (tree of depth bound 4 below `top = exF.2`, inside the fuel, `top` is a
    composite). -/
example : TreeBelow exG.1 4 exF.2 ∧ 4 ≤ exG.1.depthFuel ∧ (exG.1.op exF.2).isComp = true :=
  ⟨exG_tree.1, exG_tree.2.1, exG_tree.2.2.1⟩

/-- … and it is not trivial: its expansion is 2 × (measure, 3 × Rx180), so by `unroll_listing` the unrolled operation
    listing of `top` consists of exactly 2 measurements and 6 Rx180 gates. -/
example : ((((exG.1.applyModifiers exG.1.depthFuel exF.2).operations exF.2).2).map
      (fun n => ((exG.1.applyModifiers exG.1.depthFuel exF.2).op n).sig)).Perm
    [exM.sig, exX.sig, exX.sig, exX.sig, exM.sig, exX.sig, exX.sig, exX.sig] :=
  (unroll_listing_driver exG.1 4 exF.2 exG_tree.1 exG_tree.2.2.1).trans exG_tree.2.2.2

/-- hypotheses of `extend_keeps_tree`: in `exD`, `mid` (content [measure]) and `inner` (content [Rx180]) are separate
    trees. -/
example : TreeBelow exD 3 exC.2 ∧ (exD.op exC.2).isComp = true ∧ TreeBelow exD 3 exA.2 ∧
    (exD.op exA.2).isComp = true ∧ (∀ j, j ∈ exD.below 3 exC.2 → j ∉ exD.below 3 exA.2) := exD_separate

/-- hypotheses of `add_leaf_keeps_tree` (`inner`, still empty, and an `Rx180`) and of `add_sub_circuit_keeps_tree`
    (`mid` and `inner` in `exD`). -/
example : TreeBelow exA.1 2 exA.2 ∧ (exA.1.op exA.2).isComp = true ∧ exX.isComp = false ∧ exX.CopyStable :=
  ⟨(newCircuit_tree ({} : World) (.fixed 3) 1).2.2.2.1, (newCircuit_tree ({} : World) (.fixed 3) 1).2.2.2.2.1,
    by decide, exX_stable⟩

example : TreeBelow exD 3 exC.2 ∧ (exD.op exC.2).isComp = true ∧ TreeBelow exD 2 exA.2 ∧ 2 ≤ exD.depthFuel :=
  ⟨exD_facts.2.2.2.2.1, exD_facts.2.2.2.2.2.1, exD_facts.2.2.1, by unfold World.depthFuel; omega⟩

/-- hypothesis of `leaf_copy_keeps_signature`: see the examples of `C05.Op.WellFormed` in Properties/C05.lean; e.g. -/
example : C05.Op.WellFormed exM := by simp [C05.Op.WellFormed, exM, Cls.defaultDur]

end Qco.C06
