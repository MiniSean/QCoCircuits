import QcoVerif.Properties.C07
import QcoVerif.Lemmas.ScanSrc
import QcoVerif.Lemmas.FacadeSrc
/-
  C07 — tie to the SOURCE TEXT (DESIGN.md §2.3b).  Kept in a file of its own that nothing imports: a change of the translated
  source functions breaks THESE obligations only, not the build of the property files that import Properties/C07.lean.
-/
namespace Qco.C07
open Qco

/-! ### tie to the SOURCE TEXT (DESIGN.md §2.3b)

`Gen.PySrc.AcquisitionRegistry_get_registry_at` is the mini-Python syntax of `AcquisitionRegistry.get_registry_at`
(structure/registry_acquisition.py), regenerated from the source text on every run.  Running the interpreter on it — for EVERY
listing, measurement and qubit — gives the model's `acqScan`, the function the theorems of Properties/C07.lean are about. -/

section SourceTie
open Qco.Py Qco.Gen.PySrc Qco.ScanSrc

/-- **the source text of `get_registry_at` computes the model's two-counter scan** over the measurements of the listing
    (`ops`: the decomposed operations, `none` = not an acquisition operation), `(-1, -1)` (the default) if not found. -/
theorem registry_scan_matches_source (ops : List (Option (Nat × Int))) (m : Nat) (q : Int) :
    callFn scanEnv AcquisitionRegistry_get_registry_at [regSelf ops, identVal m q] =
      infoVal (acqScan (ops.filterMap id) m q) := by
  let vs2 : Vars := (((Vars.set [] "self" (regSelf ops)).set "key" (identVal m q)).set
    "qubit_level_acquisition_index" (.int 0)).set "circuit_level_acquisition_index" (.int 0)
  have hiter : (eval scanEnv vs2 (.mcall (.attr (.name "self") "reference_circuit") "decomposed_operations" [])).elems? =
      some (ops.map opVal) := by
    py_simp [vs2, regSelf, scanEnv]
  have L := scan_loop m q ops vs2 0 0 ⟨by simp [vs2, Vars.get_set], by simp [vs2, Vars.get_set], by simp [vs2, Vars.get_set]⟩
  -- the two counters are set, then the loop; when it ends without the measurement the default is returned
  py_simp [AcquisitionRegistry_get_registry_at]
  rw [execBlock_for _ _ _ _ _ _ _ hiter]
  unfold acqScan
  unfold loopBody at L
  split at L
  · rw [L]; rfl
  · obtain ⟨⟨vs', h1, h2⟩, h3⟩ := L
    rw [h1, h3]
    py_simp [h2, vs2, regSelf, infoVal]

end SourceTie

/-! ### the facade `DeclarativeCircuit` as written (Lemmas/FacadeSrc.lean; DESIGN.md §2.3b) -/

section Facade
open Qco.Py Qco.Gen.PySrc Qco.BuilderSrc Qco.FacadeSrc

/-- the transfer table `add_sub_circuit` hands to `copy`: one pair, sub-circuit ↦ own structure. -/
theorem facade_add_sub_circuit_lookup (sub st : Val) :
    eval builderEnv (Vars.set (Vars.set [] "self" (declObj 1 st addedObj regObj)) "operation" sub)
      (.call "dict_of" [.name "operation", .attr (.name "self") "_structure"]) = .list [.tuple [sub, st]] :=
  FacadeSrc.add_sub_circuit_lookup sub st

end Facade

end Qco.C07
