import QcoVerif.Lemmas.KernelCircuit
import QcoVerif.Lemmas.KernelProgram
import QcoVerif.Properties.C12
/-
  C13 — index kernels agree with the experiment circuit they describe.

  Two independent encodings of one experiment layout are compared:
    * `Circuit.ancillaTags rounds` (Model/KernelCircuit.lean): the sequence of acquisition tags one ANCILLA receives in
      `construct_repetition_code_multi_round_circuit(rounds, …)`; `Circuit.positions t seq` is what
      `DeclarativeCircuit.get_acquisition_indices(AcquisitionTag(ancilla, t))` returns (per-qubit running index).
      This sequence is a MODEL of the constructor, tied to the code by harness/c13.py, which builds the real circuits
      and compares both the tag positions and the real kernel's getters (the derivation of the sequence from the heap
      model of the constructors — DESIGN.md `RepCode` + C07 + C11 — is not part of this file).
    * `ExpKernel.new? rounds true true data anc 1`: the index kernel of the same experiment — the circuit always
      heralds and always calibrates the qutrit states, so the kernel is taken with `heralded_initialization = True`
      and `qutrit_calibration_points = True` (R22 — the flag matters: without it the kernel has no
      calibration kernel and would be 6 slots shorter than the circuit); one experiment repetition.
  Quantifier: every non-empty rounds list (any order, repeated entries allowed in the per-kernel form), every ancilla
  identifier, any data/ancilla id lists — hence every code distance; the initial state does not enter the tag sequence.
-/
namespace Qco.C13

open Qco.Kernel Qco.Kernel.Circuit

variable {rounds : List Nat} {d a : List QId} {K : ExpKernel}

/-- The tag sequence, spelled out: per rounds entry `r` one `heralded`, then `r` × `parity` — or one `final` when
`r = 0` —, and ONCE at the end (not per entry) the calibration block `(heralded · final)³`. -/
theorem ancilla_tag_sequence (rounds : List Nat) :
    ancillaTags rounds =
      (rounds.map (fun r => Tag.heralded :: (if r = 0 then [Tag.final] else List.replicate r Tag.parity))).flatten
        ++ [.heralded, .final, .heralded, .final, .heralded, .final] := rfl

/-- The number of acquisitions of an ancilla in the circuit equals the kernel cycle length. -/
theorem count_eq_cycle_length (hK : ExpKernel.new? rounds true true d a 1 = some K) :
    ((ancillaTags rounds).length : Int) = K.cycleLength := by
  show (((blocksTags rounds ++ calibrationBlock).length : Nat) : Int) = _
  rw [(new?_spec hK).cycle_eq, List.length_append, Int.natCast_add, blocksTags_length]
  rfl

example : ∃ K, ExpKernel.new? [0, 3] true true [0, 2] [1] 1 = some K ∧ (ancillaTags [0, 3]).length = 12 ∧
    K.cycleLength = 12 := ⟨_, rfl, rfl, rfl⟩

/-- the flag matters: a kernel built WITHOUT the calibration flag is 6 slots shorter than the circuit -/
example : ∃ K, ExpKernel.new? [0, 3] true false [0, 2] [1] 1 = some K ∧ K.cycleLength = 6 ∧
    (ancillaTags [0, 3]).length = 12 := ⟨_, rfl, rfl, rfl⟩

/-- KERNEL = CIRCUIT, kernel by kernel. For an ancilla `e`:
 * the circuit's `heralded` indices are the kernels' heralded indices followed by the three heralded calibration indices;
 * the circuit's `parity` indices are the kernels' stabilizer indices followed by their final (projected) index
   (`get_stabilizer_and_projected_cycle_acquisition_indices`), kernel after kernel;
 * the circuit's `final` indices are the three projected calibration indices, preceded by — THE DOCUMENTED EXCEPTION —
   one index per 0-round entry: the circuit measures the ancilla once (`final`) in the last slot of that kernel, for
   which the kernel reports no projected index (C12 `ancilla_cover`: exactly the missing slot). -/
theorem kernel_eq_circuit (hK : ExpKernel.new? rounds true true d a 1 = some K) {e : QId} (he : e ∈ a) :
    (positions .heralded (ancillaTags rounds)).map Int.ofNat
      = (K.repKernels.map (fun k => k.heraldedIdx e)).flatten
          ++ (K.calKernel.heralded0 e ++ K.calKernel.heralded1 e ++ K.calKernel.heralded2 e) ∧
    (positions .parity (ancillaTags rounds)).map Int.ofNat
      = (K.repKernels.map (fun k => k.stabIdx e ++ k.finalIdx e)).flatten ∧
    (positions .final (ancillaTags rounds)).map Int.ofNat
      = (K.repKernels.map (fun k => if k.nr = 0 then [k.stopIndex] else [])).flatten
          ++ (K.calKernel.state0 e ++ K.calKernel.state1 e ++ K.calKernel.state2 e) := by
  have B := new?_spec hK
  have hp := ancillaTags_eq_kernels B he .parity
  rw [calCategory, List.append_nil] at hp
  exact ⟨ancillaTags_eq_kernels B he .heralded, hp, ancillaTags_eq_kernels B he .final⟩

/-- non-vacuity, with the 0-round exception visible: rounds `[0, 3]`, ancilla 1. The circuit's `final` indices are
`[1, 7, 9, 11]`; `1` is the 0-round extra, `7, 9, 11` the projected calibration indices. -/
example : ∃ K, ExpKernel.new? [0, 3] true true [0, 2] [1] 1 = some K ∧ (1 : QId) ∈ [1] ∧
    positions .heralded (ancillaTags [0, 3]) = [0, 2, 6, 8, 10] ∧
    positions .parity (ancillaTags [0, 3]) = [3, 4, 5] ∧
    positions .final (ancillaTags [0, 3]) = [1, 7, 9, 11] ∧
    K.stabilizerAndProjectedCycle 1 3 = some [[3, 4, 5]] ∧ K.stabilizerAndProjectedCycle 1 0 = some [[]] ∧
    K.projectedCalibration 1 .s0 = [7] :=
  ⟨_, rfl, by decide, rfl, rfl, rfl, rfl, rfl, rfl⟩

/-- With one experiment repetition the public getters return exactly the per-kernel lists used above; together with
C12 `getter_finds_own_kernel` (distinct rounds: the getter for count `rounds[i]` answers from the i-th kernel) this turns
`kernel_eq_circuit` into a statement about `get_heralded_cycle_…`, `get_stabilizer_and_projected_cycle_…`,
`get_projected_cycle_…`, `get_heralded_calibration_…` and `get_projected_calibration_acquisition_indices`. -/
theorem getters_single_repetition (hK : ExpKernel.new? rounds true true d a 1 = some K) (e : QId) :
    (∀ count k, K.findKernel count = some k →
      K.heraldedCycle e count = some [k.heraldedIdx e] ∧
      K.stabilizerAndProjectedCycle e count = some [k.stabIdx e ++ k.finalIdx e] ∧
      K.projectedCycle e count = some [k.finalIdx e]) ∧
    (∀ s, K.heraldedCalibration e s = K.calKernel.heraldedState s e ∧
          K.projectedCalibration e s = K.calKernel.projectedState s e) := by
  have B := new?_spec hK
  have hone : ∀ l : List Int, slicedArrays l K.cycleLength K.reps = [l] := by
    intro l
    simp [slicedArrays, B.reps_eq, List.range_succ]
  refine ⟨?_, ?_⟩
  · intro count k hf
    simp [ExpKernel.heraldedCycle, ExpKernel.stabilizerAndProjectedCycle, ExpKernel.projectedCycle, hf, hone]
  · intro s
    simp [ExpKernel.heraldedCalibration, ExpKernel.projectedCalibration, slicedArray, hone, B.qutrit_eq]

example : ∃ K k, ExpKernel.new? [2, 0, 1] true true [0, 2] [1] 1 = some K ∧ K.findKernel 1 = some k ∧
    K.heraldedCycle 1 1 = some [[5]] := ⟨_, _, rfl, rfl, rfl⟩

/-- The same statement through the getters, for distinct rounds: the i-th rounds entry `r` owns the circuit indices
the three cycle getters return for count `r`. (Per entry: heralded = block offset, parity = the `r` following slots;
a 0-round entry has no parity index and the getter returns one empty row.) -/
theorem kernel_getters_eq_circuit (hK : ExpKernel.new? rounds true true d a 1 = some K) (hd : rounds.Nodup)
    {e : QId} (he : e ∈ a) :
    ∃ ks : List RepKernel, K.repKernels = ks ∧ ks.map (·.nr) = rounds ∧
      (∀ k ∈ ks, K.heraldedCycle e k.nr = some [k.heraldedIdx e] ∧
        K.stabilizerAndProjectedCycle e k.nr = some [k.stabIdx e ++ k.finalIdx e]) ∧
      (positions .heralded (ancillaTags rounds)).map Int.ofNat
        = (ks.map (fun k => k.heraldedIdx e)).flatten
            ++ (K.heraldedCalibration e .s0 ++ K.heraldedCalibration e .s1 ++ K.heraldedCalibration e .s2) ∧
      (positions .parity (ancillaTags rounds)).map Int.ofNat
        = (ks.map (fun k => k.stabIdx e ++ k.finalIdx e)).flatten ∧
      (positions .final (ancillaTags rounds)).map Int.ofNat
        = (ks.map (fun k => if k.nr = 0 then [k.stopIndex] else [])).flatten
            ++ (K.projectedCalibration e .s0 ++ K.projectedCalibration e .s1 ++ K.projectedCalibration e .s2) := by
  have B := new?_spec hK
  have hnr := B.nr_eq
  obtain ⟨hg, hc⟩ := getters_single_repetition hK e
  obtain ⟨h1, h2, h3⟩ := kernel_eq_circuit hK he
  refine ⟨K.repKernels, rfl, hnr, ?_, ?_, h2, ?_⟩
  · intro k hk
    obtain ⟨i, hi, hki⟩ := List.getElem_of_mem hk
    have hri : rounds[i]? = some k.nr := by
      rw [← hnr, List.getElem?_map, List.getElem?_eq_getElem hi, hki]; rfl
    have hf := (C12.getter_finds_own_kernel hK hd hri).1
    rw [List.getElem?_eq_getElem hi, hki] at hf
    exact ⟨(hg _ _ hf).1, (hg _ _ hf).2.1⟩
  · rw [h1, (hc .s0).1, (hc .s1).1, (hc .s2).1]; rfl
  · rw [h3, (hc .s0).2, (hc .s1).2, (hc .s2).2]; rfl

example : ∃ K, ExpKernel.new? [2, 0, 1] true true [0, 2] [1] 1 = some K ∧ [2, 0, 1].Nodup ∧ (1 : QId) ∈ [1] :=
  ⟨_, rfl, by decide, by decide⟩

/-- Outside the property (which speaks about ancillas), recorded because the kernel also answers for data qubits:
a DATA qubit is measured twice per rounds entry in the circuit (heralded, final), so its per-qubit circuit indices
are `2i, 2i+1`, whereas the kernel places its final index at the end of an `r`-round kernel (`r + 1` slots).
The two agree only while every entry has at most one round. -/
theorem data_qubit_indices_differ_witness :
    ∃ K, ExpKernel.new? [3, 1] true true [0] [1] 1 = some K ∧
      positions .final (dataTags [3, 1]) = [1, 3, 5, 7, 9] ∧
      K.projectedCycle 0 3 = some [[3]] ∧ K.projectedCycle 0 1 = some [[5]] := ⟨_, rfl, rfl, rfl, rfl⟩

/-! ## The tag sequence DERIVED from the program model of the constructor (Lemmas/KernelProgram.lean)

`RepCode.program desc cycles ds as` (Model/RepCode.lean) is the exported Stim program of
`construct_repetition_code_circuit(cycles, desc, initial_state)` — the model C09 compares with the real `to_stim`
text on every run. Its `M` instructions are the `DispersiveMeasure`s of the circuit, in listing order. The theorems
below read the per-qubit tag sequence off THAT program, for every cycle count and every description with distinct
qubit indices: for the block part, what `Circuit.ancillaTags` takes from reading the constructor code is proved.

What the program model does not contain: the acquisition TAG (a Stim `M` has none) and the calibration circuit.
 * tags: `KernelProgram.parts` splits the program into the three sub-circuits the constructor adds (`parts_flatten`:
   the concatenation is the program, definitionally the split `initPart ++ unroll qecBlocks ++ finalPart` of
   `RepCode.programWith`); every measurement of a part carries the tag its constructor function writes
   (`get_circuit_initialize_with_heralded`: 'heralded'; `get_circuit_qec_with_detectors`: 'parity', 0 cycles: 'final';
   `get_circuit_final_measurement`: 'final');
 * calibration: `KernelProgram.calRecord` is the acquisition record of `construct_calibration_circuit(QUTRIT)` only
   (three times: every calibrated qubit 'heralded', then every calibrated qubit 'final'); it is a specification read
   off the code, NOT derived from a program model. -/

open Qco.RepCode Qco.StimSem Qco.KernelProgram

variable {desc : RepCode.Desc} {cycles : Nat} {ds as : List Bool} {p prep : List Ins} {q : Nat} {cal : List Nat}

/-- (a) THE MEASUREMENT INSTRUCTIONS OF ONE BLOCK, in program order — every description, every cycle count, every
concrete initial state: the heralding measurement of every qubit (`qubit_ids` order), then per QEC cycle every ancilla
(`measure_ancilla_qubit_indices` order) — ONCE if there is no cycle at all —, then every data qubit. -/
theorem program_measurements (hp : program desc cycles ds as = some p) :
    measured p = desc.allIdx ++ (List.replicate (if cycles = 0 then 1 else cycles) desc.measAnc).flatten
                  ++ desc.measData :=
  measured_program hp

example : ∃ p, program (chainDesc 2 true) 2 [true, false] [] = some p ∧ measured p = [0, 1, 2, 1, 1, 0, 2] :=
  ⟨_, rfl, by decide⟩

/-- (a) for an ANCILLA of a description with distinct qubit indices: the program is the concatenation of the three
tagged parts, the acquisition record forgets to the program's `M` targets, and the ancilla's own acquisitions are
`heralded`, then `cycles` × `parity` (0 cycles: one `final`) — exactly `Circuit.ancillaBlock cycles`; as a count:
`1 + max 1 cycles` instructions `M q`. -/
theorem program_ancilla_block (hwf : desc.wellFormed = true) (hq : q ∈ desc.ancIdx)
    (hp : program desc cycles ds as = some p) :
    ∃ prep, prepConc desc ds as = some prep ∧
      p = (parts desc cycles prep).flatMap (·.2) ∧
      (acqRecord desc cycles prep).map (·.1) = measured p ∧
      tagsOf q (acqRecord desc cycles prep) = ancillaBlock cycles ∧
      measCount q p = (ancillaBlock cycles).length ∧
      p.countP (· == Ins.M q) = 1 + (if cycles = 0 then 1 else cycles) := by
  obtain ⟨prep, hprep, rfl⟩ := program_eq hp
  have ht := ancilla_tags hwf hq cycles (measured_prepConc hprep)
  have hc : measCount q (programWith desc cycles prep) = (ancillaBlock cycles).length := by
    rw [measCount_programWith, ht]
  refine ⟨prep, hprep, (parts_flatten _ _ _).symm, acqRecord_qubits _ _ _, ht, hc, ?_⟩
  rw [← measCount_eq_countP, hc, ancillaBlock]
  split <;> simp <;> omega

example : (chainDesc 3 true).wellFormed = true ∧ 3 ∈ (chainDesc 3 true).ancIdx ∧
    ∃ p, program (chainDesc 3 true) 5 [true, false, true] [] = some p := ⟨by decide, by decide, _, rfl⟩

/-- (a) for a DATA qubit: `heralded`, `final` — `Circuit.dataBlock cycles` —, two instructions `M q`, for every
cycle count. -/
theorem program_data_block (hwf : desc.wellFormed = true) (hq : q ∈ desc.dataIdx)
    (hp : program desc cycles ds as = some p) :
    ∃ prep, prepConc desc ds as = some prep ∧
      p = (parts desc cycles prep).flatMap (·.2) ∧
      (acqRecord desc cycles prep).map (·.1) = measured p ∧
      tagsOf q (acqRecord desc cycles prep) = dataBlock cycles ∧
      p.countP (· == Ins.M q) = 2 := by
  obtain ⟨prep, hprep, rfl⟩ := program_eq hp
  have ht := data_tags hwf hq cycles (measured_prepConc hprep)
  refine ⟨prep, hprep, (parts_flatten _ _ _).symm, acqRecord_qubits _ _ _, ht, ?_⟩
  rw [← measCount_eq_countP, measCount_programWith, ht]
  rfl

example : (chainDesc 3 true).wellFormed = true ∧ 2 ∈ (chainDesc 3 true).dataIdx ∧
    ∃ p, program (chainDesc 3 true) 5 [true, false, true] [] = some p := ⟨by decide, by decide, _, rfl⟩

/-- The documented 0-round difference, on the program: with no QEC cycle the ancilla is still measured a second time
(the 0-cycle branch of `get_circuit_qec_with_detectors`), tagged `final`; it occupies the slot for which the kernel
reports no projected index (`kernel_eq_circuit`, third clause). -/
theorem program_zero_round_block (hwf : desc.wellFormed = true) (hq : q ∈ desc.ancIdx)
    (hprep : prepConc desc ds as = some prep) :
    tagsOf q (acqRecord desc 0 prep) = [Tag.heralded, Tag.final] ∧
    measCount q (programWith desc 0 prep) = 2 := by
  have ht := ancilla_tags hwf hq 0 (measured_prepConc hprep)
  exact ⟨ht, by rw [measCount_programWith, ht]; rfl⟩

example : (chainDesc 2 true).wellFormed = true ∧ 1 ∈ (chainDesc 2 true).ancIdx ∧
    prepConc (chainDesc 2 true) [true, false] [] = some [Ins.X 0, Ins.I 2] ∧
    acqRecord (chainDesc 2 true) 0 [Ins.X 0, Ins.I 2] =
      [(0, .heralded), (1, .heralded), (2, .heralded), (1, .final), (0, .final), (2, .final)] :=
  ⟨by decide, by decide, rfl, by decide⟩

/-- (b) THE ROUNDS LIST. The acquisition record of the experiment — one block program per rounds entry (same
description, same initial state), then the calibration record on the qubits `cal` — restricted to an ancilla is the
tag sequence `Circuit.ancillaTags rounds`; restricted to a data qubit it is `Circuit.dataTags rounds`. The rounds part
of the record forgets to the `M` targets of the concatenated block programs. -/
theorem program_tag_sequence (hwf : desc.wellFormed = true) (hprep : prepConc desc ds as = some prep)
    (rounds : List Nat) (hn : cal.Nodup) (hc : q ∈ cal) :
    (roundsRecord desc rounds prep).map (·.1) = measured (roundsProgram desc rounds prep) ∧
    (q ∈ desc.ancIdx → tagsOf q (experimentRecord desc rounds prep cal) = ancillaTags rounds) ∧
    (q ∈ desc.dataIdx → tagsOf q (experimentRecord desc rounds prep cal) = dataTags rounds) := by
  have hm := measured_prepConc hprep
  exact ⟨roundsRecord_qubits _ _ _, fun hq => experiment_tags (fun r => ancilla_tags hwf hq r hm) rounds hn hc,
    fun hq => experiment_tags (fun r => data_tags hwf hq r hm) rounds hn hc⟩

example : (chainDesc 2 true).wellFormed = true ∧
    prepConc (chainDesc 2 true) [true, false] [] = some [Ins.X 0, Ins.I 2] ∧
    (chainDesc 2 true).allIdx.Nodup ∧ 1 ∈ (chainDesc 2 true).allIdx ∧ 1 ∈ (chainDesc 2 true).ancIdx ∧
    0 ∈ (chainDesc 2 true).dataIdx ∧ 0 ∈ (chainDesc 2 true).allIdx :=
  ⟨by decide, rfl, by decide, by decide, by decide, by decide, by decide⟩

/-- (b) KERNEL = PROGRAM. For an ancilla `q` of a description with distinct qubit indices, the per-qubit acquisition
indices (`get_acquisition_indices(AcquisitionTag(q, tag))` = running index among the acquisitions of `q`) in the
record of the block programs of `rounds` followed by the calibration record are the indices of the experiment kernel
built for the same rounds over the description's data / ancilla indices — with the documented exception: one `final`
index per 0-round entry (the slot `k.stopIndex` for which the kernel has no projected index). -/
theorem program_kernel_eq_circuit (hwf : desc.wellFormed = true) (hprep : prepConc desc ds as = some prep)
    (hK : ExpKernel.new? rounds true true desc.dataIdx desc.ancIdx 1 = some K) (hq : q ∈ desc.ancIdx)
    (hn : cal.Nodup) (hc : q ∈ cal) :
    (acqIndices q .heralded (experimentRecord desc rounds prep cal)).map Int.ofNat
      = (K.repKernels.map (fun k => k.heraldedIdx q)).flatten
          ++ (K.calKernel.heralded0 q ++ K.calKernel.heralded1 q ++ K.calKernel.heralded2 q) ∧
    (acqIndices q .parity (experimentRecord desc rounds prep cal)).map Int.ofNat
      = (K.repKernels.map (fun k => k.stabIdx q ++ k.finalIdx q)).flatten ∧
    (acqIndices q .final (experimentRecord desc rounds prep cal)).map Int.ofNat
      = (K.repKernels.map (fun k => if k.nr = 0 then [k.stopIndex] else [])).flatten
          ++ (K.calKernel.state0 q ++ K.calKernel.state1 q ++ K.calKernel.state2 q) ∧
    ((tagsOf q (experimentRecord desc rounds prep cal)).length : Int) = K.cycleLength := by
  have ht : tagsOf q (experimentRecord desc rounds prep cal) = ancillaTags rounds :=
    experiment_tags (fun r => ancilla_tags hwf hq r (measured_prepConc hprep))
      rounds hn hc
  simp only [acqIndices, ht]
  obtain ⟨h1, h2, h3⟩ := kernel_eq_circuit hK hq
  exact ⟨h1, h2, h3, count_eq_cycle_length hK⟩

/-- non-vacuity: distance-2 chain (data 0, 2; ancilla 1), rounds `[0, 3]`, calibration on all three qubits -/
example : ∃ K, (chainDesc 2 true).wellFormed = true ∧
    prepConc (chainDesc 2 true) [true, false] [] = some [Ins.X 0, Ins.I 2] ∧
    ExpKernel.new? [0, 3] true true (chainDesc 2 true).dataIdx (chainDesc 2 true).ancIdx 1 = some K ∧
    1 ∈ (chainDesc 2 true).ancIdx ∧ [0, 1, 2].Nodup ∧ 1 ∈ [0, 1, 2] ∧
    acqIndices 1 .final (experimentRecord (chainDesc 2 true) [0, 3] [Ins.X 0, Ins.I 2] [0, 1, 2]) = [1, 7, 9, 11] ∧
    acqIndices 1 .parity (experimentRecord (chainDesc 2 true) [0, 3] [Ins.X 0, Ins.I 2] [0, 1, 2]) = [3, 4, 5] :=
  ⟨_, by decide, rfl, rfl, by decide, by decide, by decide, by decide, by decide⟩

end Qco.C13
