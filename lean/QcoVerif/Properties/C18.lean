import QcoVerif.Driver.HeapDraw
import QcoVerif.Lemmas.Draw
import QcoVerif.Properties.C19
/-
  C18 — drawing shows the schedule and leaves the circuit alone.
-/
namespace Qco.C18

open Qco Qco.Draw

/-! ## rows -/

theorem occupied_nodup (w : World) (c : Nat) : (occupied w c).Nodup := C19.uniqueInOrder_nodup _

/-- **rows (rejection)**: the requested order is rejected iff one of its elements is not occupied. -/
theorem rows_reject_iff (occ order : List Int) :
    reorder occ order = none ↔ ∃ x ∈ order, x ∉ occ := by
  simp [reorder]

/-- **rows (value)**: an accepted order is put in front, the remaining occupied channels follow in
    their own order. -/
theorem rows_eq (occ order r : List Int) (h : reorder occ order = some r) :
    r = order ++ occ.filter (fun x => !order.contains x) ∧ ∀ x ∈ order, x ∈ occ := by
  unfold reorder at h
  split at h
  · rename_i hh
    exact ⟨(Option.some.inj h).symm, by simpa using hh⟩
  · cases h

/-- **rows (cover)**: the rows are exactly the occupied channels. -/
theorem rows_mem (occ order r : List Int) (h : reorder occ order = some r) (q : Int) :
    q ∈ r ↔ q ∈ occ := by
  obtain ⟨rfl, hsub⟩ := rows_eq occ order r h
  simp only [List.mem_append, List.mem_filter, Bool.not_eq_true', List.contains_eq_mem, decide_eq_false_iff_not]
  constructor
  · rintro (h1 | ⟨h1, _⟩)
    · exact hsub q h1
    · exact h1
  · intro hq
    by_cases ho : q ∈ order
    · exact Or.inl ho
    · exact Or.inr ⟨hq, ho⟩

/-- **rows (no duplicates)**: a duplicate-free order over duplicate-free occupied channels gives
    duplicate-free rows. -/
theorem rows_nodup (occ order r : List Int) (h : reorder occ order = some r)
    (hocc : occ.Nodup) (hord : order.Nodup) : r.Nodup := by
  obtain ⟨rfl, _⟩ := rows_eq occ order r h
  refine List.nodup_append.mpr ⟨hord, hocc.filter _, ?_⟩
  rintro a ha _ hb rfl
  simpa [ha] using (List.mem_filter.mp hb).2

/-- **rows (permutation)**: the rows are a permutation of the occupied channels. -/
theorem rows_perm (occ order r : List Int) (h : reorder occ order = some r)
    (hocc : occ.Nodup) (hord : order.Nodup) : r.Perm occ :=
  (List.perm_ext_iff_of_nodup (rows_nodup occ order r h hocc hord) hocc).mpr (rows_mem occ order r h)

/-- duplicates of the requested order are kept (the code concatenates, it does not de-duplicate);
    this is why `rows_nodup` asks for a duplicate-free order. -/
theorem rows_duplicate_witness : reorder [0, 1] [1, 1] = some [1, 1, 0] := by decide

/-- `rowOf` is `list.index`: the first position holding the qubit. -/
theorem rowOf_spec : ∀ (rows : List Int) (q : Int) (i : Nat), rowOf rows q = some i →
    rows[i]? = some q ∧ ∀ j, j < i → rows[j]? ≠ some q
  | [], q, i, h => by simp [rowOf] at h
  | r :: rs, q, i, h => by
    unfold rowOf at h
    by_cases e : r = q
    · simp only [e, if_true, Option.some.injEq] at h
      subst h
      simp [e]
    · simp only [e, if_false, Option.map_eq_some_iff] at h
      obtain ⟨k, hk, rfl⟩ := h
      have ih := rowOf_spec rs q k hk
      refine ⟨by simpa using ih.1, ?_⟩
      intro j hj
      cases j with
      | zero => simp [e]
      | succ j => simpa using ih.2 j (by omega)

/-- **rows (totality)**: every channel that has a row is found. -/
theorem rowOf_of_mem : ∀ (rows : List Int) (q : Int), q ∈ rows → ∃ i, rowOf rows q = some i
  | [], q, h => by simp at h
  | r :: rs, q, h => by
    unfold rowOf
    by_cases e : r = q
    · exact ⟨0, by simp [e]⟩
    · have : q ∈ rs := by
        rcases List.mem_cons.mp h with h | h
        · exact absurd h.symm e
        · exact h
      obtain ⟨i, hi⟩ := rowOf_of_mem rs q this
      exact ⟨i + 1, by simp [e, hi]⟩

/-- **rows**: every occupied channel of the drawn circuit has a row, whatever order was accepted. -/
theorem rows_total (w : World) (c : Nat) (order r : List Int)
    (h : reorder (occupied w c) order = some r) (q : Int) (hq : q ∈ occupied w c) :
    ∃ i, rowOf r q = some i ∧ r[i]? = some q :=
  let ⟨i, hi⟩ := rowOf_of_mem r q ((rows_mem _ _ _ h q).mpr hq)
  ⟨i, hi, (rowOf_spec r q i hi).1⟩

/-! ## labels -/

/-- **labels**: one label per row; the label of a row is the requested label of the channel on that row,
    the channel index itself when none was requested. -/
theorem labels (rows : List Int) (m : List (Int × String)) :
    (labelsOf rows m).length = rows.length ∧
    ∀ i : Nat, (labelsOf rows m)[i]? = rows[i]?.map (fun q =>
      match m.find? (fun p => p.1 == q) with
      | some p => p.2
      | none => toString q) := by
  refine ⟨by simp [labelsOf], fun i => ?_⟩
  simp only [labelsOf, List.getElem?_map]
  rfl

/-! ## figure width -/

/-- **figure width**: `max(1, latest end) + 1` (time unit 1/8: `max(8, ·) + 8`): at least 2, one unit to the
    right of the end of every listed operation, and exactly one unit to the right of the latest end (or of 1). -/
theorem figure_width (w : World) (rows : List Int) (lab : List (Int × String)) (tm : Times)
    (ops subs : List Nat) (d : Desc) (h : describe w rows lab tm ops subs = .ok d) :
    16 ≤ d.width ∧
    (∀ o ∈ ops, ∃ s dd, tm o = some (s, dd) ∧ s + dd + 8 ≤ d.width) ∧
    (d.width = 16 ∨ ∃ o ∈ ops, ∃ s dd, tm o = some (s, dd) ∧ d.width = s + dd + 8) := by
  obtain ⟨ts, hts, hw, -⟩ := describe_ok w rows lab tm ops subs d h
  obtain ⟨h3, h1, h2⟩ := foldl_max_spec (ts.map (fun t => t.1 + t.2)) 8
  unfold latestEnd at hw
  refine ⟨by omega, ?_, ?_⟩
  · intro o ho
    obtain ⟨y, hy, hf⟩ := mapM_mem_left tm ops ts hts o ho
    refine ⟨y.1, y.2, hf, ?_⟩
    have := h2 (y.1 + y.2) (List.mem_map.mpr ⟨y, hy, rfl⟩)
    omega
  · rcases h3 with h3 | h3
    · exact Or.inl (by omega)
    · right
      obtain ⟨y, hy, hye⟩ := List.mem_map.mp h3
      obtain ⟨o, ho, hf⟩ := mapM_mem_right tm ops ts hts y hy
      exact ⟨o, ho, y.1, y.2, hf, by omega⟩

/-! ## components: row, x-position, width -/

/-- a successful description carries exactly the components of `Draw.components` (the model never fails
    to draw: since the repair e4339e6 operations that occupy no channel are left out). -/
theorem describe_comps (w : World) (rows : List Int) (lab : List (Int × String)) (tm : Times)
    (ops subs : List Nat) (d : Desc) (h : describe w rows lab tm ops subs = .ok d) :
    components w rows tm ops = some d.comps ∧ d.rows = rows ∧ d.labels = labelsOf rows lab := by
  obtain ⟨_, _, _, hcs, hr, hl⟩ := describe_ok w rows lab tm ops subs d h
  exact ⟨hcs, hr, hl⟩

/-- **pivot_row**: every component draws a listed operation that occupies a channel, with one pivot per pivot qubit (control and
    target; all qubits of a barrier; else the operation's qubit), each on the row of that qubit. -/
theorem pivot_row (w : World) (rows : List Int) (tm : Times) (ops : List Nat) (cs : List Comp)
    (h : components w rows tm ops = some cs) (c : Comp) (hc : c ∈ cs) :
    c.op ∈ ops ∧ (w.op c.op).leafChans ≠ [] ∧
    (pivotQubits (w.op c.op)).mapM (rowOf rows) = some (c.pivots.map (·.2)) := by
  obtain ⟨⟨hop, hch⟩, hcase⟩ := components_sound w rows tm ops cs h c hc
  refine ⟨hop, hch, ?_⟩
  rcases hcase with ⟨_, hs⟩ | ⟨_, s, d, r0, r1, g, n, j, _, h0, h1, hg, _, hceq⟩
  · obtain ⟨g, s, d, rs, _, _, hrs, hceq⟩ := singleComp_spec w rows tm c.op c hs
    rw [hrs, congrArg Comp.pivots hceq, List.map_map]
    exact congrArg some (List.map_id' rs).symm
  · have hp : pivotQubits (w.op c.op) = [(w.op c.op).qs.headD 0, ((w.op c.op).qs.drop 1).headD 0] := by
      unfold pivotQubits
      rw [(twoGlyph_spec hg).1]
      rcases (twoGlyph_spec hg).2 with rfl | rfl <;> rfl
    rw [hp, congrArg Comp.pivots hceq, List.mapM_cons, List.mapM_cons, List.mapM_nil, h0, h1]
    rfl

/-- **pivot_time / width**: a component sits at x = start time of its operation and is as wide as the
    operation lasts (rotation blocks are unit squares) — under the times `tm` in force while drawing.
    Exception made by the code: two-qubit gates that start together on overlapping rows are shifted to
    `twoX start dur n j`, element `j` of a group of `n`: at most a quarter duration off (`twoX_alone`,
    `twoX_bound`). -/
theorem pivot_time (w : World) (rows : List Int) (tm : Times) (ops : List Nat) (cs : List Comp)
    (h : components w rows tm ops = some cs) (c : Comp) (hc : c ∈ cs) :
    ∃ s d, tm c.op = some (s, d) ∧
      c.width = (if c.glyph = .rotation then 8 else d) ∧
      (isTwo (w.op c.op).cls = false → ∀ p ∈ c.pivots, p.1 = ⟨s, 1⟩) ∧
      (isTwo (w.op c.op).cls = true → ∃ n j, j < n ∧ ∀ p ∈ c.pivots, p.1 = twoX s d n j) := by
  obtain ⟨_, hcase⟩ := components_sound w rows tm ops cs h c hc
  rcases hcase with ⟨hn, hs⟩ | ⟨ht, s, d, r0, r1, g, n, j, htm, _, _, hg, hj, hceq⟩
  · obtain ⟨g, s, d, rs, _, htm, _, hceq⟩ := singleComp_spec w rows tm c.op c hs
    refine ⟨s, d, htm, ?_, ?_, fun ht => by rw [hn] at ht; cases ht⟩
    · rw [congrArg Comp.width hceq, congrArg Comp.glyph hceq]
      rfl
    · intro _ p hp
      rw [congrArg Comp.pivots hceq] at hp
      obtain ⟨r, _, rfl⟩ := List.mem_map.mp hp
      rfl
  · have hrot : g ≠ .rotation := by rcases (twoGlyph_spec hg).2 with rfl | rfl <;> decide
    refine ⟨s, d, htm, ?_, fun hf => (by rw [ht] at hf; cases hf), fun _ => ⟨n, j, hj, ?_⟩⟩
    · rw [congrArg Comp.width hceq, congrArg Comp.glyph hceq, if_neg hrot]
    · rw [congrArg Comp.pivots hceq]
      intro p hp
      simp only [List.mem_cons, List.not_mem_nil, or_false] at hp
      rcases hp with rfl | rfl <;> rfl

/-- a two-qubit gate alone in its space-shared group sits exactly at its start time. -/
theorem twoX_alone (s d : Int) (j : Nat) : twoX s d 1 j = ⟨s, 1⟩ := rfl

/-- the shift of a grouped two-qubit gate is `b · d/4` with `b = (2j − (n−1))/(n−1) ∈ [−1, 1]`: the gate
    stays within a quarter of its duration of its start time (for `0 ≤ d`: `4·|x − s| ≤ d`, written without
    division as `4·|num − s·den| ≤ d·den`). -/
theorem twoX_bound (s d : Int) (n j : Nat) (hn : 2 ≤ n) (hj : j < n) (hd : 0 ≤ d) :
    (twoX s d n j).den = 4 * (n - 1) ∧
    (twoX s d n j).num - s * (twoX s d n j).den = (2 * (j : Int) - ((n : Int) - 1)) * d ∧
    4 * ((twoX s d n j).num - s * (twoX s d n j).den) ≤ d * (twoX s d n j).den ∧
    -(d * (twoX s d n j).den) ≤ 4 * ((twoX s d n j).num - s * (twoX s d n j).den) := by
  have hk : (((4 * (n - 1) : Nat)) : Int) = 4 * ((n : Int) - 1) := by
    rw [Int.natCast_mul, Int.natCast_sub (Nat.le_of_succ_le hn)]; rfl
  -- the offset is `b·d` with `-(n-1) ≤ b ≤ n-1`
  have hb : -((n : Int) - 1) ≤ 2 * (j : Int) - ((n : Int) - 1) ∧ 2 * (j : Int) - ((n : Int) - 1) ≤ (n : Int) - 1 := by
    omega
  have hc : d * (4 * ((n : Int) - 1)) = 4 * (((n : Int) - 1) * d) := by rw [Int.mul_comm d, Int.mul_assoc]
  rw [show twoX s d n j = ⟨s * (4 * ((n : Int) - 1)) + (2 * (j : Int) - ((n : Int) - 1)) * d, 4 * (n - 1)⟩ from
    if_neg (Nat.not_le_of_lt hn)]
  simp only [hk, hc, Int.add_comm (s * _), Int.add_sub_cancel, true_and]
  refine ⟨Int.mul_le_mul_of_nonneg_left (Int.mul_le_mul_of_nonneg_right hb.2 hd) (by decide), ?_⟩
  rw [← Int.mul_neg, ← Int.neg_mul]
  exact Int.mul_le_mul_of_nonneg_left (Int.mul_le_mul_of_nonneg_right hb.1 hd) (by decide)

/-- regression for R17 (fixed in /repo by 01bd1d3; before, the offset was `b·d²/4`): two gates of
    duration 5 (40 eighths) starting together at 0, control/target rows (0,1) and (1,2).  Sorted by bottom
    edge they form ONE space-shared group (n = 2); element 0 is drawn at x = −40/4 eighths = −1.25 and
    element 1 at +1.25 — a quarter duration off their start time, no longer −6.25 / +6.25.
    (The sort itself is by well-founded recursion and does not reduce in the kernel; the whole pipeline on
    this input is replayed on driver and implementation from `corpus/C18/r17_offset_squared.json`.) -/
theorem pivot_time_grouped_example :
    let a1 : TwoInfo := ⟨1, 0, 40, 1, 2⟩
    let a0 : TwoInfo := ⟨0, 0, 40, 0, 1⟩
    ([a1, a0].foldl spaceStep []).map (·.1) = [[a1, a0]] ∧
    twoX 0 40 2 0 = ⟨-40, 4⟩ ∧ twoX 0 40 2 1 = ⟨40, 4⟩ := by
  decide

/-! ## plotting and the heap -/

/-- **plot (rejection)**: an order naming an unoccupied channel is rejected before anything is listed;
    the heap is exactly as before, in compact and in non-compact mode, under any ambient durations. -/
theorem plot_reject (w : World) (c : Nat) (a : Args) (x : Int) (hx : x ∈ a.order)
    (hn : x ∉ occupied w c) : plot w c a = (w, .reject) := by
  rw [plot_eq, (rows_reject_iff _ _).mpr ⟨x, hx, hn⟩]

/-- **plot (world)**: plotting is "enter override; list; times; leave override": what it leaves behind is
    exactly the heap that listing the circuit leaves behind — the global durations, both registries and
    every field of every object except `link` untouched. -/
theorem plot_world (w : World) (c : Nat) (a : Args) (rows : List Int)
    (h : reorder (occupied w c) a.order = some rows) :
    (plot w c a).1 = (w.operations c).1 ∧ LinkOnly w (plot w c a).1 := by
  rw [plot_eq, h]
  exact ⟨rfl, operations_linkOnly w c⟩

/-- **plot (durations)**: the description is computed from the rows, the listing and the times of the
    listed heap under the drawing's own durations in compact mode and under the ambient ones otherwise. -/
theorem plot_durations (w : World) (c : Nat) (a : Args) (rows : List Int)
    (h : reorder (occupied w c) a.order = some rows) :
    (plot w c a).2 = describe (drawWorld w c a) rows a.labels (timesOf (drawWorld w c a))
        (w.operations c).2 (subComps (drawWorld w c a) (drawWorld w c a).depthFuel c) ∧
    getG (drawWorld w c a) = a.compact.getD (getG w) := by
  rw [plot_eq, h]
  exact ⟨rfl, rfl⟩

/-- **plot_frame (partial)**.
    Full statement: for every heap reachable through the API and every circuit `c`, after one listing of `c`
    (any `list`/`acq` observer) plotting `c` leaves the heap unchanged, hence every observer answers as before.
    Proved here: this holds for every heap that is `settled` for `c` (each node below `c` has a relation or
    already carries its enclosing link) — for any ambient durations, any drawing durations, compact or not,
    any order and labels.  Missing: `settled ((w.operations c).1) c` for all API-reachable heaps (needs the
    builder invariant that no object hangs in two graphs); the driver evaluates `settled` after every plot
    of the correspondence run instead. -/
theorem plot_frame_partial (w : World) (c : Nat) (a : Args)
    (hs : settled w w.depthFuel c = true) : (plot w c a).1 = w := by
  rw [plot_eq]
  cases reorder (occupied w c) a.order with
  | none => rfl
  | some rows =>
    show (w.operations c).1 = w
    unfold World.operations
    rw [decomposed_of_settled _ w c hs]

/-- … and the listing it performs returns the same operations as before. -/
theorem settled_listing (w : World) (c : Nat) (hs : settled w w.depthFuel c = true) :
    w.operations c = (w, flat w w.depthFuel c) :=
  decomposed_of_settled _ w c hs

/-! ## non-vacuity: the hypotheses above are met by non-trivial values -/

/-- an accepted order (a prefix of a permutation): rows = order ++ rest. -/
example : reorder [0, 1, 2] [2, 0] = some [2, 0, 1] := by decide
/-- a rejected one. -/
example : reorder [0, 1] [0, 5] = none ∧ (5 : Int) ∈ [0, 5] ∧ (5 : Int) ∉ [0, 1] := by decide
example : rowOf [2, 0, 1] 0 = some 1 := by decide
example : (5 : Int) ∉ occupied ({} : World) 0 := by decide

/-- a rotation, a wait and a barrier on two rows in swapped order. -/
example :
    let w : World := { ops := #[{ cls := .rx180, qs := [0], dur := .glob .mw },
                              { cls := .wait, qs := [1], dur := .fixed 16 },
                              { cls := .barrier, qs := [0, 1], dur := .fixed 4 }] }
    let tm : Times := fun o => if o = 0 then some (0, 8) else if o = 1 then some (8, 16) else some (24, 4)
    components w [1, 0] tm [0, 1, 2] =
      some [⟨0, .rotation, [(⟨0, 1⟩, 1)], 8⟩, ⟨1, .indicator, [(⟨8, 1⟩, 0)], 16⟩,
            ⟨2, .barrier, [(⟨24, 1⟩, 1), (⟨24, 1⟩, 0)], 4⟩] ∧
    describe w [1, 0] [(0, "D1")] tm [0, 1, 2] [] =
      .ok ⟨[1, 0], ["1", "D1"], 36,
           [⟨0, .rotation, [(⟨0, 1⟩, 1)], 8⟩, ⟨1, .indicator, [(⟨8, 1⟩, 0)], 16⟩,
            ⟨2, .barrier, [(⟨24, 1⟩, 1), (⟨24, 1⟩, 0)], 4⟩], []⟩ := by
  decide +kernel

/-- a channel-less barrier (R18, fixed by e4339e6) is listed but not drawn. -/
example :
    let w : World := { ops := #[{ cls := .rx180, qs := [0], dur := .glob .mw }, { cls := .barrier, qs := [] }] }
    describe w [0] [] (fun _ => some (0, 8)) [0, 1] [] =
      .ok ⟨[0], ["0"], 16, [⟨0, .rotation, [(⟨0, 1⟩, 0)], 8⟩], []⟩ := by
  decide +kernel

/-- a settled heap with content: a circuit (link `L0`) holding one rotation that carries `L0` as well. -/
example :
    let w : World := { ops := #[{ cls := .comp, graph := [⟨1, none, [0]⟩] },
                              { cls := .rx180, qs := [3], dur := .glob .mw }] }
    settled w w.depthFuel 0 = true := by
  decide +kernel

end Qco.C18
