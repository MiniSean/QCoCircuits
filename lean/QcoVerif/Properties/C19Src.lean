import QcoVerif.Properties.C19
import QcoVerif.Lemmas.TimingSrc
import QcoVerif.Lemmas.UniqSrc
/-
  C19 — tie to the SOURCE TEXT (DESIGN.md §2.3b).  Kept in a file of its own that nothing imports: a change of the translated
  source functions breaks THESE obligations only, not the build of the property files that import Properties/C19.lean.
-/
namespace Qco.C19
open Qco

/-! ### tie to the SOURCE TEXT (DESIGN.md §2.3b)

The mini-Python syntax of `ChannelIdentifier.__eq__` (structure/intrf_circuit_operation.py), `EdgeIDObj.contains / __eq__`
(connectivity/intrf_channel_identifier.py; regenerated from the source text on every run) evaluates, for ALL identifiers, to the model's `ChId.matches`, `EdgeId.contains`, `EdgeId.eq`. -/

section SourceTie
open Qco.Py Qco.Gen.PySrc Qco.TimingSrc

theorem channel_eq_matches_source (a b : ChId) (i j : Nat) :
    callFn classEnv ChannelIdentifier_eq [chIdObj i a, chIdObj j b] = .bool (a.matches b) := by
  py_simp [ChannelIdentifier_eq, chIdObj, classEnv, ChId.matches]
  -- what is left: the source returns at `equal_id and equal_channel`, then at `equal_id and qubit_channel_included`
  rw [← Bool.and_or_distrib_left, Bool.or_assoc]; rfl

theorem channel_eq_foreign_matches_source (a : ChId) (i : Nat) (other : Val)
    (h : ∀ c k fs, other ≠ .obj c k fs) :
    callFn classEnv ChannelIdentifier_eq [chIdObj i a, other] = .bool false := by
  py_simp [ChannelIdentifier_eq, chIdObj, classEnv]

theorem edge_contains_matches_source (e : EdgeId) (x : QubitId) (i : Nat) :
    callFn {} EdgeIDObj_contains [edgeObj i e, qidVal x] = .bool (e.contains x) := by
  py_simp [EdgeIDObj_contains, edgeObj, qidVal, EdgeId.contains, QubitId.eq, memVal]
  rfl

theorem edge_eq_matches_source (e f : EdgeId) (i j : Nat) :
    callFn edgeEnv EdgeIDObj_eq [edgeObj i e, edgeObj j f] = .bool (e.eq f) := by
  py_simp [EdgeIDObj_eq, edgeObj, qidVal, edgeEnv, classEnv, decodeEdge, EdgeId.eq]

end SourceTie

/-- **`unique_in_order` as written** (the loop over a growing `seen` set) keeps, for every list of integers, the first occurrence of
    every element in order: it returns the model's `uniqueInOrder`.  (The set is the list of the elements added — membership by `==`;
    that `hash` agrees with `==` on edge identifiers is `edge_eq_hash`, Properties/C19.lean.) -/
theorem unique_in_order_matches_source (l : List Int) :
    Py.callFn {} Gen.PySrc.Util_unique_in_order [Py.ints l] = Py.ints (uniqueInOrder l) := by
  rw [UniqSrc.unique_in_order_matches_source, uniqueLoop_eq_uniqueInOrder]

end Qco.C19
