import QcoVerif.Properties.C11
import QcoVerif.Lemmas.BuilderSrc
import QcoVerif.Generated.Limits
import QcoVerif.Lemmas.FacadeSrc
/-
  C11 — tie to the SOURCE TEXT (DESIGN.md §2.3b).  Kept in a file of its own that nothing imports: a change of the translated
  source functions breaks THESE obligations only, not the build of the property files that import Properties/C11.lean.
-/
namespace Qco.C11
open Qco

/-! ### tie to the SOURCE TEXT of the builder (DESIGN.md §2.3b; proofs in Lemmas/BuilderSrc.lean)

`apply_flatten_to_self`.  The functions act on objects: the fragment records such effects (`Py.callEffects`) instead of executing them. -/

section BuilderSourceTie
open Qco.Py Qco.Gen.PySrc Qco.BuilderSrc

/-- **`apply_flatten_to_self`**: a fresh graph, `add_to_graph` of every listed operation in order, then the fresh graph replaces the old one — `World.flatten`. -/
theorem flatten_matches_source (ops : List Nat) :
    callEffects builderEnv Composite_flatten
        [.obj "CircuitCompositeOperation" 1 [("decomposed_operations()", .list (ops.map plainOp))]] =
      ops.map (fun n => Val.tuple [.str "call", .none, .str "CircuitGraphBranch.add_to_graph",
                 .tuple [.str "graph", .tuple [.str "CircuitGraphBranch"]], .tuple [.str "operation", plainOp n]]) ++
      [Val.tuple [.str "setattr", .obj "CircuitCompositeOperation" 1 [("decomposed_operations()", .list (ops.map plainOp))],
                  .str "_circuit_graph", .tuple [.str "CircuitGraphBranch"]]] :=
  BuilderSrc.flatten_matches_source ops

end BuilderSourceTie

/-- **pinned limit**: the code's layer-by-layer walk of a graph stops silently after `MAX_GRAPH_DEPTH` layers (a chain of more
    operations than that on one channel is listed truncated); the model's listing is unbounded, so the listing theorems are about
    graphs of fewer layers.  The bound they are stated for is the one the pinned code has: lowering it breaks this obligation
    (and the harness then builds a chain deeper than the new bound). -/
theorem graph_depth_bound_pinned : 5000 ≤ Qco.Gen.maxGraphDepth := by decide

/-! ### the facade `DeclarativeCircuit` as written (Lemmas/FacadeSrc.lean; DESIGN.md §2.3b) -/

section Facade
open Qco.Py Qco.Gen.PySrc Qco.BuilderSrc Qco.FacadeSrc

/-- **`flatten`**: the structure is flattened IN PLACE (`apply_flatten_to_self` is called on it and answers with the same object),
    and a fresh wrapper receives that structure, the SAME list of added operations and the SAME acquisition registry. -/
theorem facade_flatten_matches_source :
    let st := stObj 2 [("apply_flatten_to_self()", stObj 2 [])]
    let fresh := Val.tuple [.str "DeclarativeCircuit", .tuple [.str "nr_qubits", .int 0]]
    callEffects builderEnv Decl_flatten [declObj 1 st addedObj regObj] =
      [Val.tuple [.str "setattr", fresh, .str "_structure", stObj 2 []],
       Val.tuple [.str "setattr", fresh, .str "_added_operations", addedObj],
       Val.tuple [.str "setattr", fresh, .str "_acquisition_registry", regObj]] :=
  FacadeSrc.flatten_matches_source

end Facade

end Qco.C11
