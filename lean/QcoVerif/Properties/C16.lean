import QcoVerif.Lemmas.Connectivity
/-
  C16 — simultaneous two-qubit gates are accepted iff they cannot collide in frequency.

  All statements are about the definitions of `Model/Connectivity.lean` that the driver executes
  (`allowedGates` = `GateSequenceGenerator.get_mutually_allowed` on gate operations, `requiresParking` =
  `get_requires_parking`, `constructAllowed` = `construct_allowed_gate_sequences`) and about the specification
  predicates `Spec.accepted`, `Spec.needsParking` of the same file.  Quantifier: EVERY list (any length, any order,
  repetitions allowed) of device edges in either orientation (`orientedEdges`) — this contains the property's
  "all subsets of up to four of the 24 edges".  The finite facts are re-checked against the generated tables by
  `decide +kernel` at every build.
-/
namespace Qco.C16
open Qco.Conn

/-- the code's frequency comparison is the strict order LOW < MID < HIGH -/
theorem isHigher_iff_rank (a b : Freq) : a.isHigher b = decide (Spec.rank b < Spec.rank a) := by
  cases a <;> cases b <;> rfl

theorem isLower_iff_rank (a b : Freq) : a.isLower b = decide (Spec.rank a < Spec.rank b) := by
  cases a <;> cases b <;> rfl

/-- `on_moving_side` = "is the strictly higher-frequency end of the edge" -/
theorem onMovingSide_iff (q : Qubit) (e : Edge) : onMovingSide q e = Spec.moving e q := by
  unfold onMovingSide Spec.moving
  rw [isHigher_iff_rank]
  cases e.has q <;> simp

/-- table: the generated device tables are well-formed — every edge joins two different known qubits, every qubit
has a frequency code 0/1/2 -/
theorem table_edges_wellformed :
    (∀ e ∈ deviceEdges, e.1 < nQubits ∧ e.2 < nQubits ∧ e.1 ≠ e.2) ∧
    Gen.Surface17.freq.length = nQubits ∧ (∀ c ∈ Gen.Surface17.freq, c < 3) := by decide +kernel

/-- table (48 × 48 ordered pairs of oriented device edges): the inner test of `get_mutually_allowed` — "the
simultaneous gate is in the target's allowed set", constraints built exactly as the code builds them — is
"same gate, or the two gates cannot collide" -/
theorem table_pairs : ∀ e ∈ orientedEdges, ∀ f ∈ orientedEdges,
    okPair (.gate e) (.gate f) = (e.same f || Spec.pairOk e f) := by
  -- neither side sees the orientation of `e` or `f`, so the 24 × 24 pairs of edges as written are evaluated
  have h : ∀ e ∈ deviceEdges, ∀ f ∈ deviceEdges, okPair (.gate e) (.gate f) = (e.same f || Spec.pairOk e f) := by
    decide +kernel
  refine forall_orientedEdges (fun e he f hf => ?_) (fun e he => forall_orientedEdges (fun f hf => ?_) (h e he))
  · rw [okPair_swap_left, same_swap_left, pairOk_swap_left]
    exact he f hf
  · rw [okPair_swap_right, same_swap_right, pairOk_swap_right]
    exact hf

/-- **Acceptance.** For every list of device edges, `get_mutually_allowed` accepts exactly when any two different
gates of the list are disjoint and have no neighbouring qubits at the same operating level. -/
theorem allowed_iff (es : List Edge) (h : ∀ e ∈ es, e ∈ orientedEdges) :
    allowedGates es = Spec.accepted es := by
  unfold Spec.accepted
  exact allowedGates_lift _ es (fun t ht s hs => table_pairs t (h t ht) s (h s hs))

/-- the same, spelled out as a proposition -/
theorem allowed_iff_forall (es : List Edge) (h : ∀ e ∈ es, e ∈ orientedEdges) :
    allowedGates es = true ↔ ∀ e ∈ es, ∀ f ∈ es, e.same f = false → Spec.pairOk e f = true := by
  rw [allowed_iff es h]
  simp only [Spec.accepted, List.all_eq_true]
  refine forall₂_congr (fun e _ => forall₂_congr (fun f _ => ?_))
  cases e.same f <;> simp

/-- non-vacuity (stated existentially, so that a legitimate change of the device tables does not break the file):
some pair of different device edges is accepted and some pair is rejected -/
example : (∃ e ∈ deviceEdges, ∃ f ∈ deviceEdges, e.same f = false ∧ allowedGates [e, f] = true) ∧
    (∃ e ∈ deviceEdges, ∃ f ∈ deviceEdges, e.same f = false ∧ allowedGates [e, f] = false) := by decide +kernel

/-- table (17 qubits × 48 oriented edges): the per-gate test of `get_requires_parking` is "neighbours the moving
member of the gate and idles at the gate's operating level", and it implies the code's spectator guard -/
theorem table_parking : ∀ q ∈ qubitIds, ∀ e ∈ orientedEdges,
    parkPair q e = Spec.parkTrigger q e ∧ (parkPair q e = true → spectates q e = true) := by
  have h : ∀ q ∈ qubitIds, ∀ e ∈ deviceEdges,
      parkPair q e = Spec.parkTrigger q e ∧ (parkPair q e = true → spectates q e = true) := by decide +kernel
  intro q hq
  refine forall_orientedEdges (fun e he => ?_) (h q hq)
  rw [parkPair_swap, parkTrigger_swap, spectates_swap]
  exact he

/-- **Parking.** For every device qubit and every list of device edges (overlapping lists included — the code was
repaired to pair every neighbour with every gate it takes part in), `get_requires_parking` holds exactly when the
qubit is not itself gated, neighbours the moving member of an active gate and idles at that gate's level. -/
theorem parking_iff (q : Qubit) (hq : q ∈ qubitIds) (es : List Edge) (h : ∀ e ∈ es, e ∈ orientedEdges) :
    requiresParking q es = Spec.needsParking q es := by
  unfold Spec.needsParking
  exact requiresParking_lift Spec.parkTrigger q es
    (fun e he => (table_parking q hq e (h e he)).1) (fun e he => (table_parking q hq e (h e he)).2)

/-- non-vacuity: some device qubit requires parking for some single gate -/
example : ∃ q ∈ qubitIds, ∃ e ∈ deviceEdges, requiresParking q [e] = true := by decide +kernel

/-- the verdict does not depend on the order in which the gates are listed (the formal content of the repair of R9:
before it, `[D4-X3, D7-X3]` and its reverse gave different answers for D8; the two lists are in corpus/C16) -/
theorem parking_perm (q : Qubit) (hq : q ∈ qubitIds) (es es' : List Edge) (h : ∀ e ∈ es, e ∈ orientedEdges)
    (hp : es.Perm es') : requiresParking q es = requiresParking q es' := by
  rw [parking_iff q hq es h, parking_iff q hq es' (fun e he => h e (hp.mem_iff.mpr he))]
  unfold Spec.needsParking
  rw [hp.any_eq, hp.any_eq]

/-- acceptance does not depend on the order either -/
theorem allowed_perm (es es' : List Edge) (h : ∀ e ∈ es, e ∈ orientedEdges) (hp : es.Perm es') :
    allowedGates es = allowedGates es' := by
  rw [allowed_iff es h, allowed_iff es' (fun e he => h e (hp.mem_iff.mpr he))]
  unfold Spec.accepted
  rw [hp.all_eq]
  apply all_congr'
  intro e _
  exact hp.all_eq

/-- **Generator soundness.** Every sequence `construct_allowed_gate_sequences` emits (for any subgroup size and any
combination limit under which it answers at all) consists of steps of exactly the subgroup size, uses every requested
gate exactly once (its index pointers are a permutation of `0 … n-1`), and every step is accepted by
`get_mutually_allowed` — hence, by `allowed_iff`, collision-free.  Soundness only: completeness of the enumeration
is not claimed by the property. -/
theorem generator_sound (es : List Edge) (h : ∀ e ∈ es, e ∈ orientedEdges) (k mx : Nat)
    (seqs : List (List (List Nat))) (hc : constructAllowed es k mx = some seqs)
    (seq : List (List Nat)) (hs : seq ∈ seqs) :
    (∀ step ∈ seq, step.length = k) ∧ seq.flatten.Perm (List.range es.length) ∧
    (∀ step ∈ seq, allowedGates (stepEdges es step) = true ∧ Spec.accepted (stepEdges es step) = true) := by
  obtain ⟨hl, hp, ha⟩ := constructAllowed_spec es k mx seqs hc seq hs
  refine ⟨hl, hp, ?_⟩
  intro step hst
  have hall : allowedGates (stepEdges es step) = true := ha step hst
  refine ⟨hall, ?_⟩
  rw [← allowed_iff _ ?_]
  · exact hall
  · intro e he
    simp only [stepEdges, List.mem_map] at he
    obtain ⟨i, hi, rfl⟩ := he
    have : i ∈ seq.flatten := List.mem_flatten.mpr ⟨step, hst, hi⟩
    have hlt : i < es.length := by simpa using (hp.mem_iff.mp this)
    apply h
    rw [List.getD_eq_getElem?_getD, List.getElem?_eq_getElem hlt]
    exact List.getElem_mem hlt

/-- non-vacuity: two gates in steps of one are emitted as the one sequence "first, then second"; in one step of
two they are emitted exactly when the pair is accepted -/
example : constructAllowed (deviceEdges.take 2) 1 = some [[[0], [1]]] := by decide +kernel

example : ∃ e ∈ deviceEdges, ∃ f ∈ deviceEdges, constructAllowed [e, f] 2 = some [[[0, 1]]] := by decide +kernel

end Qco.C16
