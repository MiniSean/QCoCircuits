import QcoVerif.Properties.C16
import QcoVerif.Lemmas.ConnSrc
import QcoVerif.Lemmas.FreqSrc
import QcoVerif.Lemmas.ParkSrc
/-
  C16 — tie to the SOURCE TEXT (DESIGN.md §2.3b).  Kept in a file of its own that nothing imports.
-/
namespace Qco.C16
open Qco Qco.Py Qco.Gen.PySrc Qco.ConnSrc

/-- **`get_mutually_allowed`: the source text accepts a step iff every operation of the step is among the operations allowed by
    EVERY operation of the step** (all ordered pairs, the operation itself included) — the shape of the model's
    `Conn.mutuallyAllowed = ops.all (fun t => ops.all (fun s => okPair t s))`; `allowed t` stands for what
    `construct_operation_constraints(t).get_allowed_operations()` answers (operations compare by value: identifiers). -/
theorem mutually_allowed_matches_source (allowed : Nat → List Nat) (ops : List Nat) (conn : Val) (hc : conn = .obj "Layer" 0 []) :
    callFn (connEnv allowed) Gen_get_mutually_allowed [nats ops, conn] =
      .bool (ops.all (fun t => ops.all (fun s => decide (s ∈ allowed t)))) :=
  ConnSrc.mutually_allowed_matches_source allowed ops conn hc

theorem mutually_allowed_is_static : Gen_get_mutually_allowed.decorators = ["staticmethod"] := by decide

/-! ### frequency ordering and the moving side of a gate, as written

`is_higher_than` calls `self.is_equal_to(other)`, `is_lower_than` calls both, `on_moving_side` calls `is_higher_than`, the two
selectors call `on_moving_side`: every such call RUNS the translated source of the callee (`FreqSrc.env1/env2/connEnv/connEnv2`), so
the chain from the selectors down to the enum comparison is source text all the way.  The edge methods `contains`,
`get_connected_qubit_id` are answered by the model's `Edge.has`, `Edge.other` (Lemmas/FreqSrc.lean says what is tied of them). -/

theorem freq_is_equal_to_matches_source (a b : Conn.Freq) :
    callFn {} Freq_is_equal_to [FreqSrc.freqObj a, FreqSrc.freqObj b] = .bool (a == b) :=
  FreqSrc.is_equal_to_matches_source a b

theorem freq_is_higher_than_matches_source (a b : Conn.Freq) :
    callFn FreqSrc.env1 Freq_is_higher_than [FreqSrc.freqObj a, FreqSrc.freqObj b] = .bool (a.isHigher b) :=
  FreqSrc.is_higher_than_matches_source a b

theorem freq_is_lower_than_matches_source (a b : Conn.Freq) :
    callFn FreqSrc.env2 Freq_is_lower_than [FreqSrc.freqObj a, FreqSrc.freqObj b] = .bool (a.isLower b) :=
  FreqSrc.is_lower_than_matches_source a b

/-- **`on_moving_side` as written = the model's `onMovingSide`**, for every qubit, every edge (either orientation, on the device
    or not) and every frequency table `freqOf`. -/
theorem on_moving_side_matches_source (q : Conn.Qubit) (e : Conn.Edge) (conn : Val) :
    callFn FreqSrc.connEnv Conn_on_moving_side [.int q, FreqSrc.edgeVal e, conn] = .bool (Conn.onMovingSide q e) :=
  FreqSrc.on_moving_side_matches_source q e conn

theorem get_higher_frequency_matches_source (e : Conn.Edge) (conn : Val) :
    callFn FreqSrc.connEnv2 Conn_get_higher_frequency_qubit_id [FreqSrc.edgeVal e, conn] =
      .int (if Conn.onMovingSide e.1 e then e.1 else e.other e.1) :=
  FreqSrc.get_higher_matches_source e conn

theorem get_lower_frequency_matches_source (e : Conn.Edge) (conn : Val) :
    callFn FreqSrc.connEnv2 Conn_get_lower_frequency_qubit_id [FreqSrc.edgeVal e, conn] =
      .int (if !Conn.onMovingSide e.1 e then e.1 else e.other e.1) :=
  FreqSrc.get_lower_matches_source e conn

/-- **`get_requires_parking` as written = the model's `requiresParking`**, for every qubit and EVERY list of edges (any length, either
    orientation, on the device or not): the two `np.any` guards, the nested loops pairing every neighbour with every edge it is part of,
    the `zip` of the three lists and the final `any` (Lemmas/ParkSrc.lean).  `get_neighbors` (module function on an edge, method on the
    layer) is answered by the model's `edgeNeighbors` / `neighbors`; `on_moving_side` and `is_higher_than` RUN their translated source. -/
theorem requires_parking_matches_source (q : Nat) (es : List (Nat × Nat)) (cls : String) (i : Nat) (fs : List (String × Val)) :
    callFn ParkSrc.parkEnv Conn_get_requires_parking [.int q, .list (es.map FreqSrc.edgeVal), .obj cls i fs] =
      .bool (Conn.requiresParking q es) :=
  ParkSrc.requires_parking_matches_source_obj q es cls i fs

/-- the ordering the source implements is a strict total order on the three groups (what "lower-frequency member" needs). -/
theorem freq_order_strict_total (a b : Conn.Freq) :
    (a.isHigher b = true ∨ a.isLower b = true ∨ a = b) ∧ ¬ (a.isHigher b = true ∧ a.isLower b = true) ∧
    (a.isHigher b = b.isLower a) := by
  cases a <;> cases b <;> decide

/-- non-vacuity: a device edge whose first qubit is the moving one, and one whose first qubit is not. -/
example : ∃ e ∈ Conn.deviceEdges, Conn.onMovingSide e.1 e = true := by decide
example : ∃ e ∈ Conn.deviceEdges, Conn.onMovingSide e.1 e = false := by decide

end Qco.C16
