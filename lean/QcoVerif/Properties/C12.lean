import QcoVerif.Lemmas.Kernel
/-
  C12 — index kernels tile the acquisition index range without gaps or overlap.

  All statements are about the definitions of `QcoVerif/Model/Kernel.lean` that the driver executes
  (`ExpKernel.new?`, `RepKernel.*Idx`, `CalKernel.*`, the getters of `ExpKernel`, `estimate`).
  Quantifier: every rounds list (any length ≥ 1, any order, rounds ≥ 0 — distinctness is only needed where a
  getter has to find "its" kernel, `getter_finds_own_kernel`), both heralded settings, both values of the
  calibration flag `q` (after the repair R22 the calibration kernel is part of the cycle iff `q`), arbitrary
  identifier lists (a qubit may be data, ancilla, both or neither), all repetitions.
  `hK : ExpKernel.new? … = some K` says "the constructor returned K"; it does so iff the rounds list is not empty.

  Vocabulary (Lemmas/Kernel.lean; `spans` and `cycleIndices` in Model/Kernel.lean): `hInt h` = 0/1, `slotLen h r = hInt h + max 0 (r-1) + 1`,
  `calLen h = 3·hInt h + 3`, `calPart h q = if q then calLen h else 0`, `K.spans` = the (start, stop) pairs of
  `indexing_kernels`, `k.all e` / `c.all e` / `K.cycleIndices e` = the concatenation of all categories of qubit `e`
  in a kernel / the calibration kernel / one whole cycle.
-/
namespace Qco.C12

open Qco.Kernel

variable {rounds : List Nat} {h q : Bool} {d a : List QId} {reps : Nat} {K : ExpKernel}

/-- The constructor answers (does not raise `IndexError`) exactly on non-empty rounds lists. -/
theorem constructor_defined (rounds : List Nat) (h q : Bool) (d a : List QId) (reps : Nat) :
    (ExpKernel.new? rounds h q d a reps).isSome ↔ rounds ≠ [] :=
  new?_isSome_iff rounds h q d a reps

/-- `start_0 = 0`, `start_{i+1} = stop_i + 1`, the last kernel (the calibration kernel if the flag is set, else the
last repetition kernel) stops at `cycle - 1`, and there is one kernel per rounds entry plus the calibration kernel
iff the flag is set. -/
theorem kernels_contiguous (hK : ExpKernel.new? rounds h q d a reps = some K) :
    K.startIndex = 0 ∧
    K.spans.head?.map Prod.fst = some 0 ∧
    (∀ (i : Nat) (p p' : Int × Int), K.spans[i]? = some p → K.spans[i + 1]? = some p' → p'.1 = p.2 + 1) ∧
    K.spans.getLast?.map Prod.snd = some (K.cycleLength - 1) ∧
    K.spans.length = rounds.length + (if q then 1 else 0) := by
  have B := new?_spec hK
  refine ⟨B.start_eq, ?_, ?_, ?_, ?_⟩
  · rw [B.spans_eq]
    cases hr : rounds with
    | nil => exact absurd hr B.ne
    | cons r rs => rfl
  · intro i p p' h1 h2
    rw [B.spans_eq] at h1 h2
    exact chain_consecutive _ _ i p p' h1 h2
  · rw [B.spans_eq, chain_getLast _ _ B.lens_ne, B.cycle_eq_sum, Int.zero_add]
  · rw [B.spans_eq, chain_length]
    cases q <;> simp [calLens]

example : ∃ K, ExpKernel.new? [0, 3, 6, 2] true true [1, 2] [10] 5 = some K ∧ K.spans.length = 5 :=
  ⟨_, rfl, rfl⟩
example : ∃ K, ExpKernel.new? [0, 3, 6, 2] true false [1, 2] [10] 5 = some K ∧ K.spans.length = 4 :=
  ⟨_, rfl, rfl⟩

/-- No kernel is empty and every kernel lies strictly before every later one: the index ranges are disjoint. -/
theorem kernels_disjoint (hK : ExpKernel.new? rounds h q d a reps = some K) :
    (∀ p ∈ K.spans, p.1 ≤ p.2) ∧
    List.Pairwise (fun p p' : Int × Int => p.2 < p'.1) K.spans := by
  have B := new?_spec hK
  rw [B.spans_eq]
  refine ⟨fun p hp => (chain_mem_bounds (Built.lens_pos h q rounds) p hp).2.1,
    chain_pairwise (Built.lens_pos h q rounds)⟩

example : ∃ K, ExpKernel.new? [1, 0] false true [] [10] 1 = some K ∧ K.spans = [(0, 0), (1, 1), (2, 4)] :=
  ⟨_, rfl, rfl⟩
example : ∃ K, ExpKernel.new? [1, 0] false false [] [10] 1 = some K ∧ K.spans = [(0, 0), (1, 1)] :=
  ⟨_, rfl, rfl⟩

/-- Together the kernels cover exactly `[0, cycle)`: no gap. -/
theorem kernels_tile (hK : ExpKernel.new? rounds h q d a reps = some K) (x : Int) :
    (0 ≤ x ∧ x < K.cycleLength) ↔ ∃ p ∈ K.spans, p.1 ≤ x ∧ x ≤ p.2 := by
  have B := new?_spec hK
  rw [B.spans_eq, B.cycle_eq_sum, ← chain_cover (Built.lens_pos h q rounds), Int.zero_add]

example : ∃ K, ExpKernel.new? [0] true true [] [10] 1 = some K ∧ K.cycleLength = 8 := ⟨_, rfl, rfl⟩

/-- `cycle_length = Σ slotLen h r + (3h + 3 if the calibration flag is set)`, the experiment starts at 0 and its
`stop_index` is `repetitions · cycle` (one past the last index — see `experiment_stop_is_exclusive`). -/
theorem cycle_length (hK : ExpKernel.new? rounds h q d a reps = some K) :
    K.cycleLength = (rounds.map (slotLen h)).sum + (if q then 3 * hInt h + 3 else 0) ∧
    K.startIndex = 0 ∧
    K.stopIndex = (reps : Int) * K.cycleLength := by
  have B := new?_spec hK
  refine ⟨?_, B.start_eq, ?_⟩
  · rw [B.cycle_eq, calPart, calLen]
  · rw [ExpKernel.stopIndex, B.start_eq, B.reps_eq]; omega

example : ∃ K, ExpKernel.new? [0, 3, 6, 2] false true [1, 2] [10] 5 = some K ∧ K.cycleLength = 15 :=
  ⟨_, rfl, rfl⟩
example : ∃ K, ExpKernel.new? [0, 3, 6, 2] true false [1, 2] [10] 5 = some K ∧ K.cycleLength = 16 :=
  ⟨_, rfl, rfl⟩

/-- Every category of every qubit lies inside its kernel — for ANY repetition kernel and ANY calibration kernel,
whatever their offset strategy. -/
theorem category_in_kernel (k : RepKernel) (c : CalKernel) (e : QId) :
    (∀ x ∈ k.heraldedIdx e, k.startIndex ≤ x ∧ x ≤ k.stopIndex) ∧
    (∀ x ∈ k.stabIdx e, k.startIndex ≤ x ∧ x ≤ k.stopIndex) ∧
    (∀ x ∈ k.finalIdx e, k.startIndex ≤ x ∧ x ≤ k.stopIndex) ∧
    (∀ s, ∀ x ∈ c.heraldedState s e, c.startIndex ≤ x ∧ x ≤ c.stopIndex) ∧
    (∀ s, ∀ x ∈ c.projectedState s e, c.startIndex ≤ x ∧ x ≤ c.stopIndex) := by
  refine ⟨?_, ?_, ?_, ?_, ?_⟩
  · exact fun x hx => RepKernel.mem_all_in_span (e := e) (by simp [RepKernel.all, hx])
  · exact fun x hx => RepKernel.mem_all_in_span (e := e) (by simp [RepKernel.all, hx])
  · exact fun x hx => RepKernel.mem_all_in_span (e := e) (by simp [RepKernel.all, hx])
  · exact fun s x hx => CalKernel.mem_all_in_span (CalKernel.mem_all_of_mem_heraldedState hx)
  · exact fun s x hx => CalKernel.mem_all_in_span (CalKernel.mem_all_of_mem_projectedState hx)

/-- A getter called with round count `rounds[i]` answers from the i-th kernel when the rounds are distinct
(the code returns the FIRST kernel with that count). -/
theorem getter_finds_own_kernel (hK : ExpKernel.new? rounds h q d a reps = some K) (hd : rounds.Nodup)
    {i r : Nat} (hi : rounds[i]? = some r) :
    K.findKernel r = K.repKernels[i]? ∧ (K.repKernels[i]?).map (·.nr) = some r := by
  have B := new?_spec hK
  refine ⟨?_, ?_⟩
  · exact find?_of_nodup_map (·.nr) K.repKernels i r (by rw [B.nr_eq]; exact hd) (by rw [B.nr_eq]; exact hi)
  · rw [← List.getElem?_map, B.nr_eq]; exact hi

example : ∃ K, ExpKernel.new? [0, 3, 6, 2] true true [1, 2] [10] 5 = some K ∧
    (K.findKernel 6).map (·.startIndex) = some 6 := ⟨_, rfl, rfl⟩

/-- What the three cycle getters return, and that every returned index of repetition `j` lies inside the kernel
found, translated by `j · cycle`. `none` (count not in the rounds list) is the code's empty array. -/
theorem getters_in_kernel (hK : ExpKernel.new? rounds h q d a reps = some K) {count : Nat} {k : RepKernel}
    (hf : K.findKernel count = some k) (e : QId) :
    k ∈ K.repKernels ∧ k.nr = count ∧
    ∀ rows, (K.heraldedCycle e count = some rows ∨ K.stabilizerAndProjectedCycle e count = some rows ∨
        K.projectedCycle e count = some rows) →
      rows.length = reps ∧
      ∀ (j : Nat) (row : List Int), rows[j]? = some row → ∀ x ∈ row,
        k.startIndex + (j : Int) * K.cycleLength ≤ x ∧ x ≤ k.stopIndex + (j : Int) * K.cycleLength := by
  have B := new?_spec hK
  have hn : k.nr = count := by simpa using List.find?_some hf
  refine ⟨List.mem_of_find?_eq_some hf, hn, fun rows hrows => ?_⟩
  obtain ⟨k', l, hf', hl, rfl⟩ := ExpKernel.cycleGetter_eq hrows
  obtain rfl : k' = k := Option.some.inj (hf'.symm.trans hf)
  refine ⟨by rw [slicedArrays_length, B.reps_eq], fun j row hj x hx => ?_⟩
  obtain ⟨_, rfl⟩ := slicedArrays_row hj
  obtain ⟨x0, hx0, rfl⟩ := List.mem_map.mp hx
  have := RepKernel.mem_all_in_span (hl x0 hx0)
  omega

example : ∃ K k, ExpKernel.new? [0, 3] true true [1, 2] [10] 2 = some K ∧ K.findKernel 3 = some k ∧
    K.stabilizerAndProjectedCycle 10 3 = some [[3, 4, 5], [15, 16, 17]] := ⟨_, _, rfl, rfl, rfl⟩

/-- The categories of one qubit in one kernel are pairwise disjoint and free of duplicates — in fact
heralded < stabilizer < final, each strictly ascending; likewise the six calibration categories.
Holds for any kernel and any qubit (data, ancilla, both, neither). -/
theorem categories_disjoint_kernel (k : RepKernel) (c : CalKernel) (e : QId) :
    List.Pairwise (· < ·) (k.heraldedIdx e ++ k.stabIdx e ++ k.finalIdx e) ∧
    List.Pairwise (· < ·)
      (c.heralded0 e ++ c.state0 e ++ c.heralded1 e ++ c.state1 e ++ c.heralded2 e ++ c.state2 e) :=
  ⟨k.all_sorted e, c.all_sorted e⟩

/-- Explicit form for the calibration getters: two getters share an index only if they are the same getter. -/
theorem categories_disjoint_calibration (c : CalKernel) (e : QId) (s s' : StateKey) (x : Int) :
    (x ∈ c.heraldedState s e → x ∈ c.heraldedState s' e → s = s') ∧
    (x ∈ c.projectedState s e → x ∈ c.projectedState s' e → s = s') ∧
    (x ∈ c.heraldedState s e → x ∈ c.projectedState s' e → False) := by
  simp only [CalKernel.mem_heraldedState, CalKernel.mem_projectedState]
  refine ⟨?_, ?_, ?_⟩
  · rintro ⟨_, _, h1⟩ ⟨_, _, h2⟩
    exact StateKey.num_inj (by omega)
  · rintro ⟨_, h1⟩ ⟨_, h2⟩
    rcases hInt_cases c.heralded with e0 | e0 <;> simp only [e0] at h1 h2 <;> exact StateKey.num_inj (by omega)
  · rintro ⟨_, hh, h1⟩ ⟨_, h2⟩
    simp only [hh, hInt_true] at h2
    omega

/-- All indices that one cycle attributes to a qubit — kernel after kernel, category after category, calibration
last — are strictly ascending: no index is attributed twice, neither within a kernel nor across kernels. -/
theorem categories_disjoint (hK : ExpKernel.new? rounds h q d a reps = some K) (e : QId) :
    List.Pairwise (· < ·) (K.cycleIndices e) :=
  (new?_spec hK).cycleIndices_sorted e

example : ∃ K, ExpKernel.new? [0, 3, 6, 2] true true [1, 2] [10] 5 = some K ∧
    K.cycleIndices 10 = [0, 2, 3, 4, 5, 6, 7, 8, 9, 10, 11, 12, 13, 14, 15, 16, 17, 18, 19, 20, 21] ∧
    K.cycleIndices 1 = [0, 1, 2, 5, 6, 12, 13, 15, 16, 17, 18, 19, 20, 21] := ⟨_, rfl, rfl, rfl⟩

/-- An ancilla's categories cover the whole cycle `[0, cycle)` except the last slot of every 0-round kernel
(the documented missing slot: the code returns no final index for an ancilla when `nr_repeated_parities = 0`). -/
theorem ancilla_cover (hK : ExpKernel.new? rounds h q d a reps = some K) {e : QId} (he : e ∈ a) (x : Int) :
    x ∈ K.cycleIndices e ↔
      (0 ≤ x ∧ x < K.cycleLength ∧ ¬ ∃ k ∈ K.repKernels, k.nr = 0 ∧ x = k.stopIndex) := by
  have B := new?_spec hK
  have hcal : e ∈ K.calKernel.ids := by rw [B.cal_ids]; simp [he]
  have hcs := K.calKernel.start_le_stop
  have hc0 := B.cal_start_nonneg
  have hcle := B.cal_start_le_cycle
  rw [mem_cycleIndices, B.qutrit_eq]
  constructor
  · rintro (⟨k, hk, hx⟩ | hx)
    · have hanc : e ∈ k.ancIds := by rw [(B.mem_fields hk).2.2]; exact he
      obtain ⟨h1, h2, h3⟩ := (RepKernel.mem_all_anc hanc x).mp hx
      have hin := B.rep_in_cycle hk
      refine ⟨by omega, by omega, ?_⟩
      rintro ⟨k', hk', hz, rfl⟩
      have hs' := k'.start_le_stop
      rcases pairwise_trichotomy B.rep_pairwise hk hk' with rfl | hlt | hlt
      · exact h3 ⟨hz, rfl⟩
      · omega
      · omega
    · obtain ⟨hq, hx⟩ := hx
      have hcyc := B.cal_stop_cycle hq
      obtain ⟨h1, h2⟩ := (CalKernel.mem_all_of_mem hcal x).mp hx
      refine ⟨by omega, by omega, ?_⟩
      rintro ⟨k', hk', _, rfl⟩
      have := B.rep_in_cycle hk'
      omega
  · rintro ⟨h0, h1, hmiss⟩
    by_cases hx : x < K.calKernel.startIndex
    · obtain ⟨k, hk, h2, h3⟩ := (B.rep_cover x).mp ⟨h0, hx⟩
      have hanc : e ∈ k.ancIds := by rw [(B.mem_fields hk).2.2]; exact he
      exact Or.inl ⟨k, hk, (RepKernel.mem_all_anc hanc x).mpr ⟨h2, h3, fun hz => hmiss ⟨k, hk, hz⟩⟩⟩
    · cases hq : q with
      | false => have := B.cal_start_eq_cycle hq; omega
      | true =>
        have hcyc := B.cal_stop_cycle hq
        exact Or.inr ⟨rfl, (CalKernel.mem_all_of_mem hcal x).mpr ⟨by omega, by omega⟩⟩

/-- non-vacuity and the missing slot itself: rounds `[0]`, heralded; slot 1 is nobody's for the ancilla. -/
example : ∃ K, ExpKernel.new? [0] true true [1] [10] 1 = some K ∧ (10 : QId) ∈ [10] ∧
    K.cycleIndices 10 = [0, 2, 3, 4, 5, 6, 7] ∧ K.cycleLength = 8 := ⟨_, rfl, by decide, rfl, rfl⟩
example : ∃ K, ExpKernel.new? [2, 0] true false [1] [10] 1 = some K ∧ (10 : QId) ∈ [10] ∧
    K.cycleIndices 10 = [0, 1, 2, 3] ∧ K.cycleLength = 5 := ⟨_, rfl, by decide, rfl, rfl⟩

/-- A pure data qubit owns the heralded slot (if heralded) and the last slot of every repetition kernel, and the
whole calibration kernel (if the calibration flag is set). -/
theorem data_indices (hK : ExpKernel.new? rounds h q d a reps = some K) {e : QId} (hd : e ∈ d) (ha : e ∉ a)
    (x : Int) :
    x ∈ K.cycleIndices e ↔
      (∃ k ∈ K.repKernels, (h = true ∧ x = k.startIndex) ∨ x = k.stopIndex) ∨
      (q = true ∧ K.calKernel.startIndex ≤ x ∧ x ≤ K.calKernel.stopIndex) := by
  have B := new?_spec hK
  have hcal : e ∈ K.calKernel.ids := by rw [B.cal_ids]; simp [hd]
  rw [mem_cycleIndices, CalKernel.mem_all_of_mem hcal, B.qutrit_eq]
  refine or_congr (exists_congr fun k => and_congr_right fun hk => ?_) Iff.rfl
  obtain ⟨f1, f2, f3⟩ := B.mem_fields hk
  rw [RepKernel.mem_all_data (f2 ▸ hd) (f3 ▸ ha), f1]

example : ∃ K, ExpKernel.new? [0, 3] true true [1] [10] 1 = some K ∧ (1 : QId) ∈ [1] ∧ (1 : QId) ∉ [10] ∧
    K.cycleIndices 1 = [0, 1, 2, 5, 6, 7, 8, 9, 10, 11] := ⟨_, rfl, by decide, by decide, rfl, ⟩

/-- Successive experiment repetitions are exact translates: row `j` of every cycle getter is row 0 shifted by
`j · cycle`, there is one row per repetition, and the flat calibration getters are the concatenation of the
single-cycle indices shifted by `0, cycle, 2·cycle, …` (empty when the calibration flag is off). -/
theorem repetition_translate (K : ExpKernel) (e : QId) :
    (∀ count rows, (K.heraldedCycle e count = some rows ∨ K.stabilizerAndProjectedCycle e count = some rows ∨
        K.projectedCycle e count = some rows) →
      rows.length = K.reps ∧
      ∀ (j : Nat) (row : List Int), rows[j]? = some row →
        ∃ row0, rows[0]? = some row0 ∧ row = row0.map (fun x => x + (j : Int) * K.cycleLength)) ∧
    (∀ s, K.projectedCalibration e s =
      if K.qutrit then ((List.range K.reps).map (fun (j : Nat) =>
        (K.calKernel.projectedState s e).map (fun x => x + (j : Int) * K.cycleLength))).flatten else []) ∧
    (∀ s, K.heraldedCalibration e s =
      if K.qutrit then ((List.range K.reps).map (fun (j : Nat) =>
        (K.calKernel.heraldedState s e).map (fun x => x + (j : Int) * K.cycleLength))).flatten else []) := by
  refine ⟨fun count rows hrows => ?_, fun _ => rfl, fun _ => rfl⟩
  obtain ⟨_, l, _, _, rfl⟩ := ExpKernel.cycleGetter_eq hrows
  refine ⟨slicedArrays_length _ _ _, fun j row hj => ?_⟩
  obtain ⟨hjl, rfl⟩ := slicedArrays_row hj
  refine ⟨_, slicedArrays_getElem? _ _ _ 0 (by omega), ?_⟩
  rw [List.map_map]
  exact List.map_congr_left fun x _ => by simp

example : ∃ K, ExpKernel.new? [0, 3] true true [1, 2] [10] 3 = some K ∧
    K.heraldedCycle 10 3 = some [[2], [14], [26]] ∧ K.projectedCalibration 10 .s1 = [9, 21, 33] :=
  ⟨_, rfl, rfl, rfl⟩

/-- Repetition `j` of everything lives in the window `[j · cycle, (j+1) · cycle)`: repetitions do not overlap and
the last index used is below `stop_index = repetitions · cycle`. -/
theorem repetition_window (hK : ExpKernel.new? rounds h q d a reps = some K) (e : QId) :
    (∀ count rows, (K.heraldedCycle e count = some rows ∨ K.stabilizerAndProjectedCycle e count = some rows ∨
        K.projectedCycle e count = some rows) →
      ∀ (j : Nat) (row : List Int), rows[j]? = some row → ∀ x ∈ row,
        (j : Int) * K.cycleLength ≤ x ∧ x < ((j : Int) + 1) * K.cycleLength) ∧
    (∀ s, ∀ x ∈ K.projectedCalibration e s ++ K.heraldedCalibration e s,
      ∃ j : Nat, j < reps ∧ (j : Int) * K.cycleLength ≤ x ∧ x < ((j : Int) + 1) * K.cycleLength) := by
  have B := new?_spec hK
  refine ⟨fun count rows hrows j row hj x hx => ?_, fun s x hx => ?_⟩
  · obtain ⟨k, l, hf, hl, rfl⟩ := ExpKernel.cycleGetter_eq hrows
    obtain ⟨_, rfl⟩ := slicedArrays_row hj
    obtain ⟨y, hy, rfl⟩ := List.mem_map.mp hx
    have := RepKernel.mem_all_in_span (hl y hy)
    have := B.rep_in_cycle (List.mem_of_find?_eq_some hf)
    have := B.cal_start_le_cycle
    exact shift_window j (by omega) (by omega)
  · obtain ⟨hq, j, hj, y, hy, rfl⟩ := ExpKernel.mem_calGetter hx
    have := CalKernel.mem_all_in_span hy
    have := B.cal_start_nonneg
    have := B.cal_stop_cycle (B.qutrit_eq.symm.trans hq)
    exact ⟨j, B.reps_eq ▸ hj, shift_window j (by omega) (by omega)⟩

example : ∃ K, ExpKernel.new? [1, 0] true false [1] [10] 2 = some K ∧
    K.projectedCycle 1 0 = some [[3], [7]] ∧ K.cycleLength = 4 := ⟨_, rfl, rfl, rfl⟩

/-- `RepetitionExperimentKernel.stop_index` is EXCLUSIVE (one past the last index in use) although the kernels it is
built from use inclusive stops; the inherited `kernel_length = stop - start + 1` therefore over-counts by one. Not
part of the tiling statement; recorded because `stop_index` is an observation point of the property. -/
theorem experiment_stop_is_exclusive (hK : ExpKernel.new? rounds h q d a reps = some K) :
    K.stopIndex = K.startIndex + (reps : Int) * K.cycleLength ∧
    K.kernelLength = (reps : Int) * K.cycleLength + 1 := by
  have B := new?_spec hK
  refine ⟨by rw [ExpKernel.stopIndex, B.reps_eq], ?_⟩
  rw [ExpKernel.kernelLength, ExpKernel.stopIndex, B.reps_eq]
  omega

example : ∃ K, ExpKernel.new? [1] false true [1] [10] 3 = some K ∧ K.stopIndex = 12 ∧ K.kernelLength = 13 ∧
    K.projectedCalibration 10 .s2 = [3, 7, 11] := ⟨_, rfl, rfl, rfl, rfl⟩

/-- The cycle length `estimate_experiment_repetitions` computes from `(rounds, heralded, flag)` is the cycle length of
the kernel constructed from the same description (after the repair R22 both honour the calibration flag). -/
theorem estimate_cycle (hK : ExpKernel.new? rounds h q d a reps = some K) :
    estimateCycle? rounds h q = some K.cycleLength := by
  have B := new?_spec hK
  obtain ⟨first, last, hfirst, hlast, hstart, hstop⟩ := buildReps_ends h [] [] (.fixed 0) B.ne
  simp only [estimateCycle?, hfirst, hlast, Option.some.injEq, hstart, B.cycle_eq, calPart]
  cases q <;> simp only [CalKernel.stop_eq, CalKernel.startIndex, Strategy.getIndex, hstop, if_true,
    Bool.false_eq_true, if_false] <;> omega

example : ∃ K K', ExpKernel.new? [2, 0] true true [1] [10] 1 = some K ∧ K.cycleLength = 11 ∧
    estimateCycle? [2, 0] true true = some 11 ∧
    ExpKernel.new? [2, 0] true false [1] [10] 1 = some K' ∧ K'.cycleLength = 5 ∧
    estimateCycle? [2, 0] true false = some 5 :=
  ⟨_, _, rfl, rfl, rfl, rfl, rfl, rfl⟩

/-- The assertion of the code, on the model: a data-set size that is not a multiple of the cycle length is refused,
a multiple is answered with the exact quotient. -/
theorem estimate_sound (hK : ExpKernel.new? rounds h q d a reps = some K) (dataset : Nat)
    (hexact : dataset < floatExactBound) :
    estimate rounds h q dataset =
      if (dataset : Int) % K.cycleLength = 0 then .value ((dataset : Int) / K.cycleLength).toNat
      else .assertionError := by
  unfold estimate
  rw [estimate_cycle hK]
  have hlt : ¬ floatExactBound ≤ dataset := by omega
  simp only [if_neg hlt]

example : ∃ K, ExpKernel.new? [2, 0] true false [1] [10] 2 = some K ∧ (11 : Nat) < floatExactBound ∧
    estimate [2, 0] true false 11 = .assertionError ∧ estimate [2, 0] true false 20 = .value 4 :=
  ⟨_, rfl, by decide, rfl, rfl⟩

/-- The repetition estimate inverts `dataset size = repetitions × cycle length`, for every experiment description —
both values of the calibration flag — in the range `reps · cycle < 2^53` in which the code's float division is exact
and the model answers at all (above it the model answers `inexact`; the code's own `assert` turns a rounding error into
an exception, never a wrong value — checked on the implementation by harness/c12.py). -/
theorem estimate_inverts (hK : ExpKernel.new? rounds h q d a reps = some K)
    (hexact : (reps : Int) * K.cycleLength < (floatExactBound : Int)) :
    estimate rounds h q ((reps : Int) * K.cycleLength).toNat = .value reps := by
  have hpos := (new?_spec hK).cycle_pos
  have hnn : 0 ≤ (reps : Int) * K.cycleLength := Int.mul_nonneg (by omega) (by omega)
  rw [estimate_sound hK _ (by omega), Int.toNat_of_nonneg hnn, Int.mul_emod_left, if_pos rfl,
    Int.mul_ediv_cancel _ (by omega), Int.toNat_natCast]

example : ∃ K, ExpKernel.new? [0, 3, 6, 2] false true [1, 2] [10] 5 = some K ∧
    (5 : Int) * K.cycleLength < (floatExactBound : Int) ∧ estimate [0, 3, 6, 2] false true 75 = .value 5 :=
  ⟨_, rfl, by decide, rfl⟩

/-- the input on which R22 showed (rounds `[1]`, no heralding, flag off, 3 repetitions) is an instance of the theorem:
the cycle is 1, the data set has 3 entries and the estimate is 3. -/
example : ∃ K, ExpKernel.new? [1] false false [1] [10] 3 = some K ∧ K.cycleLength = 1 ∧
    (3 : Int) * K.cycleLength < (floatExactBound : Int) ∧ estimate [1] false false 3 = .value 3 :=
  ⟨_, rfl, rfl, by decide, rfl⟩

end Qco.C12
